/-
C06 — rounding of the extrapolated line and of the extrapolated bilinear blend under the standard model.  `C01_rounding` is
relative to the larger of the two values; outside the interval the value is not bounded by them, and the natural scale is
`|slope·(x − x1)| + |y1|`.
-/
import NdInterp.Props.C04Fl

namespace NdInterp

section
variable {F : Type} [Field F] [LinearOrder F] [IsStrictOrderedRing F]

/-- For *any* query `x`: in range or extrapolated, on either side. -/
theorem C06_linear_rounding (x1 y1 x2 y2 x u d1 d2 d3 d4 d5 d6 : F)
    (hx : x1 < x2) (hu0 : 0 ≤ u) (hu : u ≤ 1/16)
    (h1 : |d1| ≤ u) (h2 : |d2| ≤ u) (h3 : |d3| ≤ u) (h4 : |d4| ≤ u) (h5 : |d5| ≤ u) (h6 : |d6| ≤ u) :
    |calcFracFl x1 y1 x2 y2 x d1 d2 d3 d4 d5 d6 - calcFrac x1 y1 x2 y2 x| ≤
      (7 * u + 6 * u ^ 2) * (|(y2 - y1) * ((x - x1) / (x2 - x1))| + |y1|) := by
  refine (calcFracFl_err x1 y1 x2 y2 x u d1 d2 d3 d4 d5 d6 hu0 hu h1 h2 h3 h4 h5 h6 le_rfl
    (calcFrac_repr x1 y1 x2 y2 x ▸ abs_add_le _ _)).trans ?_
  set D := (y2 - y1) * ((x - x1) / (x2 - x1))
  calc |D| * (6 * u) * (1 + u) + (|D| + |y1|) * u
      = (7 * u + 6 * u ^ 2) * (|D| + |y1|) - 6 * u * (1 + u) * |y1| := by ring
    _ ≤ _ := sub_le_self _ (by positivity)

/-- non-vacuity: an extrapolated query (`x = 5` beyond `[0, 1]`) with concrete perturbations -/
example : |calcFracFl (0 : ℚ) 1 1 3 5 (1/32) 0 0 0 0 (-1/32) - calcFrac 0 1 1 3 5| ≤
    (7 * (1/32) + 6 * (1/32) ^ 2) * (|(3 - 1) * ((5 - 0) / (1 - 0))| + |(1 : ℚ)|) :=
  C06_linear_rounding 0 1 1 3 5 (1/32) (1/32) 0 0 0 0 (-1/32) (by norm_num) (by norm_num) (by norm_num)
    (by norm_num [abs_of_nonneg]) (by norm_num) (by norm_num) (by norm_num) (by norm_num) (by norm_num [abs_of_nonneg])

/-- The bilinear blend (`bilinearFl` of C04Fl) at *any* query `(x, y)`: inside the grid, beyond one side, or beyond a corner.
    With `B = 7u + 6u²`, `z1`, `z2` the exact values of the two x passes, `E1`, `E2` their rounding bounds by `C06_linear_rounding`
    and `ty = (y−y1)/(y2−y1)` the bound reads `B·((|z2−z1| + E1 + E2)·|ty| + |z1| + E1) + |1−ty|·E1 + |ty|·E2`. -/
theorem C06_bilinear_rounding (x1 x2 y1 y2 z11 z12 z21 z22 x y u d1 d2 d3 d4 d5 d6 e1 e2 e3 e4 e5 e6 f1 f2 f3 f4 f5 f6 : F)
    (hx : x1 < x2) (hy : y1 < y2) (hu0 : 0 ≤ u) (hu : u ≤ 1/16)
    (hd1 : |d1| ≤ u) (hd2 : |d2| ≤ u) (hd3 : |d3| ≤ u) (hd4 : |d4| ≤ u) (hd5 : |d5| ≤ u) (hd6 : |d6| ≤ u)
    (he1 : |e1| ≤ u) (he2 : |e2| ≤ u) (he3 : |e3| ≤ u) (he4 : |e4| ≤ u) (he5 : |e5| ≤ u) (he6 : |e6| ≤ u)
    (hf1 : |f1| ≤ u) (hf2 : |f2| ≤ u) (hf3 : |f3| ≤ u) (hf4 : |f4| ≤ u) (hf5 : |f5| ≤ u) (hf6 : |f6| ≤ u) :
    |bilinearFl x1 x2 y1 y2 z11 z12 z21 z22 x y d1 d2 d3 d4 d5 d6 e1 e2 e3 e4 e5 e6 f1 f2 f3 f4 f5 f6
        - bilinearExact x1 x2 y1 y2 z11 z12 z21 z22 x y| ≤
      (7 * u + 6 * u ^ 2) *
          ((|calcFrac x1 z12 x2 z22 x - calcFrac x1 z11 x2 z21 x|
              + (7 * u + 6 * u ^ 2) * (|(z21 - z11) * ((x - x1) / (x2 - x1))| + |z11|)
              + (7 * u + 6 * u ^ 2) * (|(z22 - z12) * ((x - x1) / (x2 - x1))| + |z12|)) * |(y - y1) / (y2 - y1)|
            + |calcFrac x1 z11 x2 z21 x|
            + (7 * u + 6 * u ^ 2) * (|(z21 - z11) * ((x - x1) / (x2 - x1))| + |z11|))
        + |1 - (y - y1) / (y2 - y1)| * ((7 * u + 6 * u ^ 2) * (|(z21 - z11) * ((x - x1) / (x2 - x1))| + |z11|))
        + |(y - y1) / (y2 - y1)| * ((7 * u + 6 * u ^ 2) * (|(z22 - z12) * ((x - x1) / (x2 - x1))| + |z12|)) := by
  set B := 7 * u + 6 * u ^ 2 with hB
  have hB0 : 0 ≤ B := by rw [hB]; positivity
  set E1 := B * (|(z21 - z11) * ((x - x1) / (x2 - x1))| + |z11|)
  set E2 := B * (|(z22 - z12) * ((x - x1) / (x2 - x1))| + |z12|)
  set ty := (y - y1) / (y2 - y1)
  unfold bilinearFl bilinearExact
  set z1 := calcFrac x1 z11 x2 z21 x
  set z2 := calcFrac x1 z12 x2 z22 x
  set z1' := calcFracFl x1 z11 x2 z21 x d1 d2 d3 d4 d5 d6
  set z2' := calcFracFl x1 z12 x2 z22 x e1 e2 e3 e4 e5 e6
  have r1 : |z1' - z1| ≤ E1 := C06_linear_rounding x1 z11 x2 z21 x u d1 d2 d3 d4 d5 d6 hx hu0 hu hd1 hd2 hd3 hd4 hd5 hd6
  have r2 : |z2' - z2| ≤ E2 := C06_linear_rounding x1 z12 x2 z22 x u e1 e2 e3 e4 e5 e6 hx hu0 hu he1 he2 he3 he4 he5 he6
  have b1 : |z1'| ≤ |z1| + E1 := abs_le_add_of_sub r1 le_rfl
  have b21 : |z2' - z1'| ≤ |z2 - z1| + E1 + E2 := by
    have : |z2' - z1' - (z2 - z1)| ≤ E2 + E1 := by
      rw [sub_sub_sub_comm]; exact (abs_sub _ _).trans (add_le_add r2 r1)
    linarith [abs_le_add_of_sub this le_rfl]
  -- the y pass rounds at the rounded values of the x passes; `calc_frac` is affine in them
  have s1 : |calcFracFl y1 z1' y2 z2' y f1 f2 f3 f4 f5 f6 - calcFrac y1 z1' y2 z2' y| ≤
      B * ((|z2 - z1| + E1 + E2) * |ty| + |z1| + E1) := by
    refine (C06_linear_rounding y1 z1' y2 z2' y u f1 f2 f3 f4 f5 f6 hy hu0 hu hf1 hf2 hf3 hf4 hf5 hf6).trans ?_
    rw [abs_mul]
    exact mul_le_mul_of_nonneg_left
      (add_le_add (mul_le_mul_of_nonneg_right b21 (abs_nonneg _)) b1 |>.trans_eq (add_assoc _ _ _).symm) hB0
  have s2 : |calcFrac y1 z1' y2 z2' y - calcFrac y1 z1 y2 z2 y| ≤ |1 - ty| * E1 + |ty| * E2 := by
    rw [calcFrac_sub, calcFrac_convex _ _ _ _ _ hy]
    refine (abs_add_le _ _).trans ?_
    rw [abs_mul, abs_mul]
    exact add_le_add (mul_le_mul_of_nonneg_left r1 (abs_nonneg _)) (mul_le_mul_of_nonneg_left r2 (abs_nonneg _))
  calc _ ≤ B * ((|z2 - z1| + E1 + E2) * |ty| + |z1| + E1) + (|1 - ty| * E1 + |ty| * E2) :=
        (abs_sub_le _ _ _).trans (add_le_add s1 s2)
    _ = _ := by ring

/-- a query beyond the corner of the cell `[0,1]×[0,2]` -/
example : bilinearFl (0 : ℚ) 1 0 2 1 2 3 5 4 (-3) 0 0 0 0 0 0 0 0 0 0 0 0 0 0 0 0 0 0 = bilinearExact 0 1 0 2 1 2 3 5 4 (-3) := by
  norm_num [bilinearFl, bilinearExact, calcFracFl, calcFrac]

end

end NdInterp
