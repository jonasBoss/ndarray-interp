/-
C13 — results do not depend on the memory layout or ownership of any array argument.
-/
import NdInterp.Props.C14
import NdInterp.Gen.SourceFacts

namespace NdInterp

/-- On the source facts regenerated on every run: outside `cfg(test)` the crate calls no ndarray API whose result
    depends on the memory layout (`as_slice*`, `as_ptr`, `into_shape*`, `to_shape`, `strides`, raw views, unchecked
    indexing, …): data, axes, queries and buffers are only accessed through logical indexing, `Zip`, `index_axis`,
    `axis_iter`, `windows`, `indexed_iter` and slicing, whose pairing of equal logical indices is ndarray's contract
    (trusted, exercised by the layout runs of the check: the model ignores the layout tags of a case, the real code
    must nevertheless return the model's result). -/
theorem C13_facts : Gen.layoutApiHits = [] := by decide

/-- `C13_buffer` (`Props/C14.lean`) restated: two output buffers of the same shape with arbitrary offsets and strides
    receive the same logical contents; the only requirement is the invariant of an `ArrayViewMut` (distinct indices ↦
    distinct addresses).  No contiguity or ordering condition appears: a correctly shaped buffer is accepted whatever
    its strides. -/
theorem C13_buffer_layout {α β : Type} (trailing : List Nat) (f : β → Except Fault (List α))
    (qshape : List Nat) (qs : List β) (b1 b2 : View) (m1 m2 m1' : Int → α)
    (hshape : b1.shape = b2.shape) (hinj1 : b1.addrs.Nodup) (hinj2 : b2.addrs.Nodup)
    (hs1 : qshape.length ≤ b1.strides.length) (hs2 : qshape.length ≤ b2.strides.length)
    (hq : qs.length = shapeSize qshape) (hf : ∀ q v, f q = .ok v → v.length = shapeSize trailing)
    (h1 : arrayIntoMem trailing f qshape qs b1 m1 = .ok m1') :
    ∃ m2', arrayIntoMem trailing f qshape qs b2 m2 = .ok m2' ∧ b2.read m2' = b1.read m1' :=
  C13_buffer trailing f qshape qs b1 b2 m1 m2 m1' m1' hshape hinj1 hinj2 hs1 hs2 hq hf h1

/-! non-vacuity: a C-order and a Fortran-order view of shape (2,3) have distinct addresses -/
example : (View.mk 0 [2, 3] [3, 1]).addrs.Nodup ∧ (View.mk 0 [2, 3] [1, 2]).addrs.Nodup ∧
    (View.mk 5 [2, 3] [-3, 7]).addrs.Nodup := by decide

end NdInterp
