/-
C05 — without extrapolation a query is answered iff it lies in the closed axis range, and otherwise
the call is exactly `Err(OutOfBounds)`: never a panic, never a number.  The comparisons are the
scalar's own Boolean tests, decided through `LawfulCmp` (NaN-free types); `C05_gate_nan` assumes
nothing of them.  The batch statements are generic over the strategy call and serve every entry
point.  The spline variant `C05_spline` is in `Props/C02`.
-/
import NdInterp.Lemmas.LinearCore
import NdInterp.Lemmas.Batch

namespace NdInterp

section
variable {α V : Type} [Field α] [LinearOrder α] [IsStrictOrderedRing α]
  [Cmp α] [LawfulCmp α] [ToUsize α] [LawfulToUsize α] [Lanes α V]

/-- Linear without extrapolation answers exactly the closed range. -/
theorem C05_linear (xs : List α) (ys : List V) (q : α)
    (hs : StrictInc xs) (hl : ys.length = xs.length) (hlen : xs.length < 2 ^ 64) :
    (InRange xs q → ∃ v, linearInterp false xs ys q = .ok v) ∧
    (¬ InRange xs q → linearInterp false xs ys q = .error .outOfBounds) := by
  obtain ⟨i, hb⟩ := exists_bracket xs q hs hlen
  rw [linearInterp_of_bracket false ys hs hl hlen hb]
  constructor
  · intro hin; rw [if_pos (Or.inr hin)]; exact ⟨_, rfl⟩
  · intro hout; rw [if_neg (by simp [hout])]

/-- the two range gates are all that can reject a call on a valid interpolator -/
theorem bilinearInterp_gate (ext : Bool) (xs ys : List α) (zs : List (List V)) (x y : α)
    (hsx : StrictInc xs) (hsy : StrictInc ys) (hg : GridOK zs xs.length ys.length)
    (hlx : xs.length < 2 ^ 64) (hly : ys.length < 2 ^ 64) :
    ∃ v, bilinearInterp ext xs ys zs x y =
      if ext = true ∨ InRange xs x then
        if ext = true ∨ InRange ys y then .ok v else .error .outOfBounds
      else .error .outOfBounds := by
  obtain ⟨i, hi⟩ := exists_bracket xs x hsx hlx
  obtain ⟨j, hj⟩ := exists_bracket ys y hsy hly
  obtain ⟨r1, r2, z11, z12, z21, z22, e1, e2, e11, e12, e21, e22⟩ := hg.cell hi.lt_len hj.lt_len
  exact ⟨_, bilinearInterp_of_cell ext hsx hsy hlx hly hi hj e1 e2 e11 e12 e21 e22⟩

/-- Each coordinate is checked against its own axis (x first). -/
theorem C05_bilinear (xs ys : List α) (zs : List (List V)) (x y : α)
    (hsx : StrictInc xs) (hsy : StrictInc ys) (hg : GridOK zs xs.length ys.length)
    (hlx : xs.length < 2 ^ 64) (hly : ys.length < 2 ^ 64) :
    (InRange xs x ∧ InRange ys y → ∃ v, bilinearInterp false xs ys zs x y = .ok v) ∧
    (¬ (InRange xs x ∧ InRange ys y) → bilinearInterp false xs ys zs x y = .error .outOfBounds) := by
  obtain ⟨v, h⟩ := bilinearInterp_gate false xs ys zs x y hsx hsy hg hlx hly
  constructor
  · rintro ⟨hx, hy⟩; rw [h, if_pos (Or.inr hx), if_pos (Or.inr hy)]; exact ⟨_, rfl⟩
  · intro hout
    rw [h]
    by_cases hx : InRange xs x
    · have hy : ¬ InRange ys y := fun hy => hout ⟨hx, hy⟩
      rw [if_pos (Or.inr hx), if_neg (by simp [hy])]
    · rw [if_neg (by simp [hx])]

end

section anycmp
variable {α : Type} [Cmp α]

/-- If the scalar's own test `x[0] <= q` is false — as for `q = NaN` — the range gate of a
    non-extrapolating strategy yields `OutOfBounds`. -/
theorem C05_gate_nan (xs : List α) (q : α) (x0 : α) (h0 : xs[0]? = some x0)
    (hcmp : Cmp.le x0 q = false) : rangeGate false xs q = .error .outOfBounds := by
  simp [rangeGate, isInRange, h0, hcmp]

/-- likewise if `q <= x[len-1]` is false -/
theorem C05_gate_nan_hi (xs : List α) (q : α) (x0 xl : α) (h0 : xs[0]? = some x0)
    (hl : xs[xs.length - 1]? = some xl)
    (hcmp : Cmp.le q xl = false) : rangeGate false xs q = .error .outOfBounds := by
  unfold rangeGate isInRange
  simp only [h0, hl]
  cases Cmp.le x0 q <;> simp [hcmp]

end anycmp

section batch
variable {α β : Type}

/-- A failing batch returns the error of the first offending element in logical order; every
    element before it was answered. -/
theorem C05_batch_first_error (f : β → Except Fault (List α)) (qs : List β) (e : Fault)
    (h : interpEach f qs = .error e) :
    ∃ pre q post, qs = pre ++ q :: post ∧ (∀ p ∈ pre, ∃ v, f p = .ok v) ∧ f q = .error e :=
  (mapM_eq_error f e qs).mp (interpEach_eq_mapM f qs ▸ h)

/-- A batch is answered iff every element is. -/
theorem C05_batch_ok_iff (f : β → Except Fault (List α)) (qs : List β) :
    (∃ vs, interpEach f qs = .ok vs) ↔ ∀ q ∈ qs, ∃ v, f q = .ok v := by
  constructor
  · rintro ⟨vs, h⟩ q hq
    obtain ⟨hl, hk⟩ := mapM_ok f qs vs (interpEach_eq_mapM f qs ▸ h)
    obtain ⟨k, hk', rfl⟩ := List.getElem_of_mem hq
    exact ⟨_, hk k hk' (hl ▸ hk')⟩
  · intro h
    cases hr : interpEach f qs with
    | ok vs => exact ⟨vs, rfl⟩
    | error e =>
      obtain ⟨pre, q, post, rfl, _, hq⟩ := C05_batch_first_error f _ e hr
      obtain ⟨v, hv⟩ := h q (by simp)
      rw [hv] at hq; cases hq

end batch

section witness
variable {α β : Type}

/-- The element a failing batch is rejected for is the *first* one, in logical order, that a single
    call rejects — `rej` being any test that decides rejection (for the built-in strategies:
    `rejected xs`, i.e. `is_in_range` fails; `oobWitness1`/`oobWitness2` of the model compute exactly
    this element, and the driver prints it as the payload of `oob`). -/
theorem C05_witness (f : β → Except Fault (List α)) (rej : β → Bool)
    (hrej : ∀ q, rej q = false ↔ ∃ v, f q = .ok v) (qs : List β) (e : Fault)
    (h : interpEach f qs = .error e) :
    ∃ w, qs.find? rej = some w ∧ f w = .error e := by
  obtain ⟨pre, q, post, rfl, hpre, hq⟩ := C05_batch_first_error f qs e h
  have hq' : rej q = true := by
    rw [← Bool.not_eq_false, hrej]
    rintro ⟨v, hv⟩
    rw [hv] at hq; cases hq
  exact ⟨q, List.find?_eq_some_iff_append.mpr
    ⟨hq', pre, post, rfl, fun p hp => by simp [(hrej p).mpr (hpre p hp)]⟩, hq⟩

end witness

theorem rejected_iff {α : Type} [LinearOrder α] [Cmp α] [LawfulCmp α] (xs : List α) (q : α)
    (h0 : 0 < xs.length) : rejected xs q = false ↔ InRange xs q := by
  unfold rejected
  rw [isInRange_eq xs q h0]
  by_cases h : InRange xs q <;> simp [h]

section linear_witness
variable {α : Type} [Field α] [LinearOrder α] [IsStrictOrderedRing α]
  [Cmp α] [LawfulCmp α] [ToUsize α] [LawfulToUsize α]

/-- A rejected Linear batch (1-D data) names the model's witness `oobWitness1`: the first query
    element outside the closed range. -/
theorem C05_linear_names_first (xs ys : List α) (qs : List α) (hs : StrictInc xs)
    (hl : ys.length = xs.length) (hlen : xs.length < 2 ^ 64) (e : Fault)
    (h : interpEach (fun q => (linearInterp (V := α) false xs ys q).map (fun v => [v])) qs = .error e) :
    ∃ w, oobWitness1 xs qs = some w ∧ ¬ InRange xs w ∧ e = .outOfBounds := by
  have h0 : 0 < xs.length := by have := hs.1; omega
  have hC := fun q => C05_linear (V := α) xs ys q hs hl hlen
  have hrej : ∀ q, rejected xs q = false ↔
      ∃ v, (linearInterp (V := α) false xs ys q).map (fun v => [v]) = .ok v := fun q => by
    rw [rejected_iff xs q h0]
    constructor
    · intro hin
      obtain ⟨v, hv⟩ := (hC q).1 hin
      exact ⟨[v], by rw [hv]; rfl⟩
    · rintro ⟨v, hv⟩
      by_contra hout
      rw [(hC q).2 hout] at hv
      cases hv
  obtain ⟨w, hw, hfw⟩ := C05_witness _ (rejected xs) hrej qs e h
  by_cases hin : InRange xs w
  · obtain ⟨v, hv⟩ := (hC w).1 hin
    rw [hv] at hfw; cases hfw
  · rw [(hC w).2 hin] at hfw
    cases hfw
    exact ⟨w, hw, hin, rfl⟩

end linear_witness

end NdInterp
