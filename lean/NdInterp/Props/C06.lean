/-
C06 — extrapolation continues the end polynomial and never rejects a finite query: Linear and
Bilinear (the spline statements `C06_spline_*` are in `Props/C02`).
-/
import NdInterp.Props.C05

namespace NdInterp

section anyops
variable {α V : Type} [Cmp α] [Add α] [Sub α] [Mul α] [Div α] [NatCast α] [ToUsize α] [Lanes α V]

/-- No assumption on the scalar operations at all (so bit for bit in IEEE arithmetic): whenever the
    range gate passes with the flag off, the results with the flag on and off are the same term. -/
theorem C06_linear_inrange_same (xs : List α) (ys : List V) (q : α)
    (h : rangeGate false xs q = .ok ()) :
    linearInterp true xs ys q = linearInterp false xs ys q := by
  unfold linearInterp
  rw [h]
  rfl

theorem C06_bilinear_inrange_same (xs ys : List α) (zs : List (List V)) (x y : α)
    (hx : rangeGate false xs x = .ok ()) (hy : rangeGate false ys y = .ok ()) :
    bilinearInterp true xs ys zs x y = bilinearInterp false xs ys zs x y := by
  unfold bilinearInterp
  rw [hx, hy]
  rfl

end anyops

section
variable {α V : Type} [Field α] [LinearOrder α] [IsStrictOrderedRing α]
  [Cmp α] [LawfulCmp α] [ToUsize α] [LawfulToUsize α] [Lanes α V]

/-- With the flag on every query of an ordered field is answered. -/
theorem C06_linear_never_rejects (xs : List α) (ys : List V) (q : α)
    (hs : StrictInc xs) (hl : ys.length = xs.length) (hlen : xs.length < 2 ^ 64) :
    ∃ v, linearInterp true xs ys q = .ok v := by
  obtain ⟨i, hb⟩ := exists_bracket xs q hs hlen
  exact ⟨_, by rw [linearInterp_of_bracket true ys hs hl hlen hb, if_pos (.inl rfl)]⟩

theorem C06_bilinear_never_rejects (xs ys : List α) (zs : List (List V)) (x y : α)
    (hsx : StrictInc xs) (hsy : StrictInc ys) (hg : GridOK zs xs.length ys.length)
    (hlx : xs.length < 2 ^ 64) (hly : ys.length < 2 ^ 64) :
    ∃ v, bilinearInterp true xs ys zs x y = .ok v := by
  obtain ⟨v, h⟩ := bilinearInterp_gate true xs ys zs x y hsx hsy hg hlx hly
  exact ⟨v, by rw [h, if_pos (.inl rfl), if_pos (.inl rfl)]⟩

/-- At or left of the first knot the result is the value at `q` of the line of the *first*
    interval — the same polynomial piece that answers queries inside `[x₀, x₁)`. -/
theorem C06_linear_left (xs : List α) (ys : List V) (q : α)
    (hs : StrictInc xs) (hl : ys.length = xs.length) (hlen : xs.length < 2 ^ 64)
    (hq : q ≤ xs[0]'(by have := hs.1; omega)) :
    linearInterp true xs ys q = .ok (linePiece xs ys 0 (by have := hs.1; omega) hl q) := by
  obtain ⟨i, hb⟩ := exists_bracket xs q hs hlen
  cases hb.low _ hq
  rw [linearInterp_of_bracket true ys hs hl hlen hb, if_pos (.inl rfl)]

/-- At or right of the last knot, the line of the *last* interval. -/
theorem C06_linear_right (xs : List α) (ys : List V) (q : α)
    (hs : StrictInc xs) (hl : ys.length = xs.length) (hlen : xs.length < 2 ^ 64)
    (hq : xs[xs.length - 1]'(by have := hs.1; omega) ≤ q) :
    linearInterp true xs ys q =
      .ok (linePiece xs ys (xs.length - 2) (by have := hs.1; omega) hl q) := by
  obtain ⟨i, hb⟩ := exists_bracket xs q hs hlen
  cases hb.high (by have := hs.1; omega) hq
  rw [linearInterp_of_bracket true ys hs hl hlen hb, if_pos (.inl rfl)]

/-- Inside the range the same pieces are used (flag on or off): with `C06_linear_left/right`
    this is continuity of the extrapolated interpolant across the range ends. -/
theorem C06_linear_inside (ext : Bool) (xs : List α) (ys : List V) (q : α) (i : Nat)
    (hs : StrictInc xs) (hl : ys.length = xs.length) (hlen : xs.length < 2 ^ 64)
    (hi : i + 1 < xs.length) (h1 : xs[i]'(by omega) ≤ q) (h2 : q < xs[i + 1]) :
    linearInterp ext xs ys q = .ok (linePiece xs ys i hi hl q) := by
  rw [linearInterp_of_bracket ext ys hs hl hlen (.of_interval hs hi h1 h2),
    if_pos (.inr (inRange_of_interval hs hi h1 h2.le))]

/-- Every answered 2-D query (in range or extrapolated in x, in y or in both) is the bilinear form
    of the cell given by the two brackets — for coordinates outside the grid that is the border
    cell (`Bracket.low` / `Bracket.high`). -/
theorem C06_bilinear_cell (xs ys : List α) (zs : List (List V)) (x y : α)
    (hsx : StrictInc xs) (hsy : StrictInc ys) (hg : GridOK zs xs.length ys.length)
    (hlx : xs.length < 2 ^ 64) (hly : ys.length < 2 ^ 64) :
    ∃ i j, ∃ (hi : Bracket xs x i) (hj : Bracket ys y j),
      (x ≤ xs[0]'(by have := hsx.1; omega) → i = 0) ∧
      (xs[xs.length - 1]'(by have := hsx.1; omega) ≤ x → i = xs.length - 2) ∧
      (y ≤ ys[0]'(by have := hsy.1; omega) → j = 0) ∧
      (ys[ys.length - 1]'(by have := hsy.1; omega) ≤ y → j = ys.length - 2) ∧
      ∃ r1 r2 z11 z12 z21 z22,
      zs[i]? = some r1 ∧ zs[i + 1]? = some r2 ∧
      r1[j]? = some z11 ∧ r1[j + 1]? = some z12 ∧ r2[j]? = some z21 ∧ r2[j + 1]? = some z22 ∧
      bilinearInterp true xs ys zs x y =
        .ok (Lanes.map4 (fun z11 z12 z21 z22 =>
          let z1 := calcFrac (xs[i]'(by have := hi.lt_len; omega)) z11 (xs[i + 1]'hi.lt_len) z21 x
          let z2 := calcFrac (xs[i]'(by have := hi.lt_len; omega)) z12 (xs[i + 1]'hi.lt_len) z22 x
          calcFrac (ys[j]'(by have := hj.lt_len; omega)) z1 (ys[j + 1]'hj.lt_len) z2 y)
          z11 z12 z21 z22) := by
  obtain ⟨i, j, hi, hj, h⟩ := bilinearInterp_eq true xs ys zs x y hsx hsy hg hlx hly
  refine ⟨i, j, hi, hj, hi.low _, hi.high (by have := hsx.1; omega), hj.low _,
    hj.high (by have := hsy.1; omega), ?_⟩
  simpa only [true_or, if_true, cellPiece] using h

end

end NdInterp
