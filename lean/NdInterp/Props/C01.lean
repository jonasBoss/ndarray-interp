/-
C01 — Linear 1-D interpolation returns the exact piecewise-linear interpolant: for every strictly
increasing axis (any length ≥ 2, any spacing), every data set, every lane structure `V` and every
in-range query.  The rounding of `calc_frac` is bounded under the standard model (`Lemmas/StdModel`).
-/
import NdInterp.Lemmas.LinearCore
import NdInterp.Lemmas.StdModel
import NdInterp.Model.Interp

namespace NdInterp

/-! Inside the interval `calc_frac` is a convex combination of its two values: it stays between them
and, being linear in them (`calcFrac_sub`), is 1-Lipschitz in them (max-norm). -/

section
variable {F : Type} [Field F] [LinearOrder F] [IsStrictOrderedRing F]

theorem calcFrac_convex (x1 x2 a b x : F) (hx : x1 < x2) :
    calcFrac x1 a x2 b x = (1 - (x - x1) / (x2 - x1)) * a + (x - x1) / (x2 - x1) * b := by
  unfold calcFrac
  ring

theorem calcFrac_mem {x1 x2 a b x lo hi : F} (hx : x1 < x2) (h1 : x1 ≤ x) (h2 : x ≤ x2)
    (ha : lo ≤ a ∧ a ≤ hi) (hb : lo ≤ b ∧ b ≤ hi) :
    lo ≤ calcFrac x1 a x2 b x ∧ calcFrac x1 a x2 b x ≤ hi := by
  obtain ⟨ht0, ht1⟩ := unit_coord hx h1 h2
  rw [calcFrac_convex _ _ _ _ _ hx]
  exact convex_mem ht0 ht1 ha hb

theorem calcFrac_abs_le (x1 x2 a b x M : F) (hx : x1 < x2) (h1 : x1 ≤ x) (h2 : x ≤ x2)
    (ha : |a| ≤ M) (hb : |b| ≤ M) : |calcFrac x1 a x2 b x| ≤ M :=
  abs_le.mpr (calcFrac_mem hx h1 h2 (abs_le.mp ha) (abs_le.mp hb))

theorem calcFrac_lipschitz (x1 x2 a b a' b' x D : F) (hx : x1 < x2) (h1 : x1 ≤ x) (h2 : x ≤ x2)
    (ha : |a - a'| ≤ D) (hb : |b - b'| ≤ D) :
    |calcFrac x1 a x2 b x - calcFrac x1 a' x2 b' x| ≤ D :=
  calcFrac_sub x1 x2 a b a' b' x ▸ calcFrac_abs_le x1 x2 _ _ x D hx h1 h2 ha hb

end

section
variable {α : Type} [NatCast α]

theorem defaultAxis_length (n : Nat) : (defaultAxis (α := α) n).length = n := by
  simp [defaultAxis]

theorem defaultAxis_get (n i : Nat) (h : i < (defaultAxis (α := α) n).length) :
    (defaultAxis (α := α) n)[i] = (i : α) := by
  simp [defaultAxis]

end

section
variable {α V : Type} [Field α] [LinearOrder α] [IsStrictOrderedRing α]
  [Cmp α] [LawfulCmp α] [ToUsize α] [LawfulToUsize α] [Lanes α V]

/-- For any lane structure the call succeeds on every in-range query and is `calc_frac` of the
    bracketing points, lane by lane. -/
theorem C01_struct (ext : Bool) (xs : List α) (ys : List V) (q : α)
    (hs : StrictInc xs) (hl : ys.length = xs.length) (hlen : xs.length < 2 ^ 64)
    (hin : InRange xs q) :
    ∃ i, ∃ (hb : Bracket xs q i),
      linearInterp ext xs ys q =
        .ok (Lanes.map2 (fun y1 y2 =>
          calcFrac (xs[i]'(by have := hb.lt_len; omega)) y1 (xs[i + 1]'hb.lt_len) y2 q)
          (ys[i]'(by have := hb.lt_len; omega)) (ys[i + 1]'(by have := hb.lt_len; omega))) := by
  obtain ⟨i, hb⟩ := exists_bracket xs q hs hlen
  exact ⟨i, hb, by rw [linearInterp_of_bracket ext ys hs hl hlen hb, if_pos (Or.inr hin)]; rfl⟩

/-- One lane: the value is that of the straight line through the two bracketing points. -/
theorem C01_exact (ext : Bool) (xs ys : List α) (q : α)
    (hs : StrictInc xs) (hl : ys.length = xs.length) (hlen : xs.length < 2 ^ 64)
    (hin : InRange xs q) :
    ∃ i, ∃ (hb : Bracket xs q i),
      linearInterp (V := α) ext xs ys q =
        .ok (ys[i]'(by have := hb.lt_len; omega) +
          (ys[i + 1]'(by have := hb.lt_len; omega) - ys[i]'(by have := hb.lt_len; omega)) /
            (xs[i + 1]'hb.lt_len - xs[i]'(by have := hb.lt_len; omega)) *
            (q - xs[i]'(by have := hb.lt_len; omega))) := by
  obtain ⟨i, hb, h⟩ := C01_struct (V := α) ext xs ys q hs hl hlen hin
  refine ⟨i, hb, ?_⟩
  rw [h]
  simp only [Lanes.map2, calcFrac]
  congr 1
  ring

/-- Every data point is reproduced at its axis value (also the last one). -/
theorem C01_knot (ext : Bool) (xs ys : List α) (k : Nat)
    (hs : StrictInc xs) (hl : ys.length = xs.length) (hlen : xs.length < 2 ^ 64)
    (hk : k < xs.length) :
    linearInterp (V := α) ext xs ys xs[k] = .ok (ys[k]'(by omega)) := by
  obtain ⟨i, hb⟩ := exists_bracket xs xs[k] hs hlen
  have hlt := hb.lt_len
  rw [linearInterp_of_bracket ext ys hs hl hlen hb, if_pos (.inr (hs.inRange hk))]
  rcases knot_bracket hs hk hb with rfl | rfl
  · exact congrArg _ (calcFrac_left ..)
  · exact congrArg _ (calcFrac_right _ _ _ _ (hs.lt_succ hlt).ne)

/-- The result never leaves the interval spanned by the two bracketing values. -/
theorem C01_hull (ext : Bool) (xs ys : List α) (q : α)
    (hs : StrictInc xs) (hl : ys.length = xs.length) (hlen : xs.length < 2 ^ 64)
    (hin : InRange xs q) :
    ∃ i r, ∃ (hb : Bracket xs q i), linearInterp (V := α) ext xs ys q = .ok r ∧
      min (ys[i]'(by have := hb.lt_len; omega)) (ys[i + 1]'(by have := hb.lt_len; omega)) ≤ r ∧
      r ≤ max (ys[i]'(by have := hb.lt_len; omega)) (ys[i + 1]'(by have := hb.lt_len; omega)) := by
  obtain ⟨i, hb, h⟩ := C01_struct (V := α) ext xs ys q hs hl hlen hin
  obtain ⟨b1, b2⟩ := hb.between hs hin
  exact ⟨i, _, hb, h, calcFrac_mem (hs.lt_succ hb.lt_len) b1 b2 ⟨min_le_left _ _, le_max_left _ _⟩
    ⟨min_le_right _ _, le_max_right _ _⟩⟩

omit [Cmp α] [LawfulCmp α] [ToUsize α] [LawfulToUsize α] in
/-- The default axis of `Interp1DBuilder::new` is the index `0, 1, …, n-1`, strictly increasing. -/
theorem C01_default_axis (n : Nat) (hn : 2 ≤ n) :
    StrictInc (defaultAxis (α := α) n) ∧
      ∀ i (h : i < (defaultAxis (α := α) n).length), (defaultAxis (α := α) n)[i] = (i : α) := by
  refine ⟨⟨by rw [defaultAxis_length]; exact hn, ?_⟩, defaultAxis_get n⟩
  intro i j hij hj
  rw [defaultAxis_get, defaultAxis_get]
  exact_mod_cast hij

end

section rounding
variable {F : Type} [Field F] [LinearOrder F] [IsStrictOrderedRing F]

/-- `calc_frac` with every one of its six operations perturbed by a relative error `δₖ` -/
def calcFracFl (x1 y1 x2 y2 x d1 d2 d3 d4 d5 d6 : F) : F :=
  let dy := (y2 - y1) * (1 + d1)
  let dx := (x2 - x1) * (1 + d2)
  let m := dy / dx * (1 + d3)
  let t := (x - x1) * (1 + d4)
  let p := m * t * (1 + d5)
  (p + y1) * (1 + d6)

theorem calcFracFl_zero (x1 y1 x2 y2 x : F) :
    calcFracFl x1 y1 x2 y2 x 0 0 0 0 0 0 = calcFrac x1 y1 x2 y2 x := by
  simp [calcFracFl, calcFrac]

theorem calcFracFl_repr (x1 y1 x2 y2 x d1 d2 d3 d4 d5 d6 : F) :
    calcFracFl x1 y1 x2 y2 x d1 d2 d3 d4 d5 d6 =
      ((y2 - y1) * ((x - x1) / (x2 - x1)) * ((1 + d1) * (1 + d3) * (1 + d4) * (1 + d5) / (1 + d2)) + y1) * (1 + d6) := by
  unfold calcFracFl
  generalize x2 - x1 = dx, 1 + d2 = e2
  ring

/-- The slope-times-offset term `D = (y2−y1)·(x−x1)/(x2−x1)` carries the relative error `θ` of five operations
    (`theta_bound`), the final sum `D + y1` one more rounding (`fl_err`).  Stated at any query, for whatever bounds
    `A`, `C` the caller has on `D` and on the exact result: `C06_linear_rounding` and the index guess of C11 use it
    outside the bracketing interval. -/
theorem calcFracFl_err {A C : F} (x1 y1 x2 y2 x u d1 d2 d3 d4 d5 d6 : F) (hu0 : 0 ≤ u) (hu : u ≤ 1/16)
    (h1 : |d1| ≤ u) (h2 : |d2| ≤ u) (h3 : |d3| ≤ u) (h4 : |d4| ≤ u) (h5 : |d5| ≤ u) (h6 : |d6| ≤ u)
    (hA : |(y2 - y1) * ((x - x1) / (x2 - x1))| ≤ A) (hC : |calcFrac x1 y1 x2 y2 x| ≤ C) :
    |calcFracFl x1 y1 x2 y2 x d1 d2 d3 d4 d5 d6 - calcFrac x1 y1 x2 y2 x| ≤ A * (6 * u) * (1 + u) + C * u := by
  rw [calcFracFl_repr]
  refine fl_err ?_ hC h6
  rw [calcFrac_repr, add_sub_add_right_eq_sub, ← mul_sub_one]
  exact abs_mul_le hA (theta_bound u d1 d2 d3 d4 d5 hu0 hu h1 h2 h3 h4 h5)

/-- "A few ulps of the larger bracketing value": at most `13u + 12u²` relative to
    `M = max(|y1|,|y2|)`, for every query inside the bracketing interval. -/
theorem C01_rounding (x1 y1 x2 y2 x u M d1 d2 d3 d4 d5 d6 : F)
    (hx : x1 < x2) (hin1 : x1 ≤ x) (hin2 : x ≤ x2)
    (hu0 : 0 ≤ u) (hu : u ≤ 1/16)
    (h1 : |d1| ≤ u) (h2 : |d2| ≤ u) (h3 : |d3| ≤ u) (h4 : |d4| ≤ u) (h5 : |d5| ≤ u) (h6 : |d6| ≤ u)
    (hM1 : |y1| ≤ M) (hM2 : |y2| ≤ M) :
    |calcFracFl x1 y1 x2 y2 x d1 d2 d3 d4 d5 d6 - calcFrac x1 y1 x2 y2 x| ≤ (13 * u + 12 * u ^ 2) * M := by
  obtain ⟨ht0, ht1⟩ := unit_coord hx hin1 hin2
  -- in range the result is a convex combination of `y1`, `y2`, and `D` at most their distance
  have hD : |(y2 - y1) * ((x - x1) / (x2 - x1))| ≤ (M + M) * 1 :=
    abs_mul_le ((abs_sub _ _).trans (add_le_add hM2 hM1)) ((abs_of_nonneg ht0).trans_le ht1)
  exact (calcFracFl_err x1 y1 x2 y2 x u d1 d2 d3 d4 d5 d6 hu0 hu h1 h2 h3 h4 h5 h6 hD
    (calcFrac_abs_le x1 x2 y1 y2 x M hx hin1 hin2 hM1 hM2)).trans_eq (by ring)

end rounding

end NdInterp
