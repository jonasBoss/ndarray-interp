/-
C12 — `monotonic_prop` classifies every vector correctly and never calls NaN data rising.

Whether some consecutive pair rises, some is level, some falls: by trichotomy every clause of
`Class` is a combination of these three facts (`Class.sig`), so is every state of the automaton
(`Sem`), and one step of the automaton adds the fact of the pair it reads (`sem_step`).
-/
import NdInterp.Model.Vector
import NdInterp.Lemmas.Lawful
import NdInterp.Lemmas.StrictInc
import Mathlib.Order.Basic
import Mathlib.Tactic.Tauto

namespace NdInterp

def AllPairs {α : Type} (R : α → α → Prop) : List α → Prop
  | a :: b :: rest => R a b ∧ AllPairs R (b :: rest)
  | _ => True

def SomePair {α : Type} (R : α → α → Prop) : List α → Prop
  | a :: b :: rest => R a b ∨ SomePair R (b :: rest)
  | _ => False

/-- the class the property text assigns to a vector -/
inductive Class (α : Type) [LinearOrder α] (xs : List α) : Monotonic → Prop
  | risingStrict : 2 ≤ xs.length → AllPairs (· < ·) xs → Class α xs (.rising true)
  | rising : AllPairs (· ≤ ·) xs → SomePair (· = ·) xs → SomePair (· < ·) xs →
      Class α xs (.rising false)
  | fallingStrict : 2 ≤ xs.length → AllPairs (· > ·) xs → Class α xs (.falling true)
  | falling : AllPairs (· ≥ ·) xs → SomePair (· = ·) xs → SomePair (· > ·) xs →
      Class α xs (.falling false)
  | notMonotonic :
      (xs.length < 2 ∨ AllPairs (· = ·) xs ∨ (SomePair (· < ·) xs ∧ SomePair (· > ·) xs)) →
      Class α xs .notMonotonic

section pairs
variable {α : Type}

theorem allPairs_iff_not_somePair (R : α → α → Prop) :
    ∀ l : List α, AllPairs R l ↔ ¬ SomePair (fun a b => ¬ R a b) l
  | [] | [_] => by simp [AllPairs, SomePair]
  | a :: b :: l => by
    simp only [AllPairs, SomePair, allPairs_iff_not_somePair R (b :: l), not_or, not_not]

theorem somePair_or (R S : α → α → Prop) :
    ∀ l : List α, SomePair (fun a b => R a b ∨ S a b) l ↔ SomePair R l ∨ SomePair S l
  | [] | [_] => by simp [SomePair]
  | a :: b :: l => by simp only [SomePair, somePair_or R S (b :: l), or_or_or_comm]

theorem somePair_congr {R S : α → α → Prop} (h : ∀ a b, R a b ↔ S a b) :
    ∀ l : List α, SomePair R l ↔ SomePair S l
  | [] | [_] => by simp [SomePair]
  | a :: b :: l => by simp only [SomePair, h a b, somePair_congr h (b :: l)]

theorem somePair_snoc (R : α → α → Prop) (a b : α) :
    ∀ p : List α, SomePair R (p ++ [a, b]) ↔ SomePair R (p ++ [a]) ∨ R a b
  | [] => by simp [SomePair]
  | [x] => by simp [SomePair]
  | x :: y :: p => by
    simp only [List.cons_append, SomePair, or_assoc]
    exact or_congr_right (somePair_snoc R a b (y :: p))

end pairs

section sig
variable {α : Type} [LinearOrder α]

theorem allLt_iff (l : List α) :
    AllPairs (· < ·) l ↔ ¬ SomePair (· = ·) l ∧ ¬ SomePair (· > ·) l := by
  rw [allPairs_iff_not_somePair, somePair_congr (fun a b => not_lt_iff_eq_or_lt), somePair_or, not_or]

theorem allGt_iff (l : List α) :
    AllPairs (· > ·) l ↔ ¬ SomePair (· = ·) l ∧ ¬ SomePair (· < ·) l := by
  rw [allPairs_iff_not_somePair, somePair_congr (S := fun a b => a = b ∨ a < b)
    (fun a b => by rw [not_lt_iff_eq_or_lt, eq_comm]), somePair_or, not_or]

theorem allLe_iff (l : List α) : AllPairs (· ≤ ·) l ↔ ¬ SomePair (· > ·) l := by
  rw [allPairs_iff_not_somePair, somePair_congr (fun a b => not_le)]

theorem allGe_iff (l : List α) : AllPairs (· ≥ ·) l ↔ ¬ SomePair (· < ·) l := by
  rw [allPairs_iff_not_somePair, somePair_congr (fun a b => not_le)]

theorem allEq_iff (l : List α) :
    AllPairs (· = ·) l ↔ ¬ SomePair (· < ·) l ∧ ¬ SomePair (· > ·) l := by
  rw [allPairs_iff_not_somePair, somePair_congr (fun a b => ne_iff_lt_or_gt), somePair_or, not_or]

theorem len_iff : ∀ l : List α,
    2 ≤ l.length ↔ SomePair (· < ·) l ∨ SomePair (· = ·) l ∨ SomePair (· > ·) l
  | [] | [_] => by simp [SomePair]
  | a :: b :: r => by
    have := lt_trichotomy a b
    simp only [SomePair, List.length_cons]
    constructor
    · intro _; tauto
    · intro _; omega

theorem Class.sig {xs : List α} {m : Monotonic} (h : Class α xs m) :
    match m with
    | .rising s => SomePair (· < ·) xs ∧ ¬ SomePair (· > ·) xs ∧ (s = true ↔ ¬ SomePair (· = ·) xs)
    | .falling s => SomePair (· > ·) xs ∧ ¬ SomePair (· < ·) xs ∧ (s = true ↔ ¬ SomePair (· = ·) xs)
    | .notMonotonic => (SomePair (· < ·) xs ↔ SomePair (· > ·) xs) := by
  have hl := len_iff xs
  cases h with
  | risingStrict h2 ha =>
    obtain ⟨he, hg⟩ := (allLt_iff xs).mp ha
    exact ⟨(hl.mp h2).resolve_right (not_or.mpr ⟨he, hg⟩), hg, iff_of_true rfl he⟩
  | rising ha he hl' => exact ⟨hl', (allLe_iff xs).mp ha, iff_of_false (by simp) (not_not.mpr he)⟩
  | fallingStrict h2 ha =>
    obtain ⟨he, hg⟩ := (allGt_iff xs).mp ha
    exact ⟨((hl.mp h2).resolve_left hg).resolve_left he, hg, iff_of_true rfl he⟩
  | falling ha he hl' => exact ⟨hl', (allGe_iff xs).mp ha, iff_of_false (by simp) (not_not.mpr he)⟩
  | notMonotonic h =>
    rcases h with h | h | h
    · have := mt hl.mpr (by omega)
      exact iff_of_false (fun l => this (.inl l)) (fun g => this (.inr (.inr g)))
    · exact iff_of_false ((allEq_iff xs).mp h).1 ((allEq_iff xs).mp h).2
    · exact iff_of_true h.1 h.2

end sig

section lawful
variable {α : Type} [LinearOrder α] [Cmp α] [LawfulCmp α]

/-- what a state of the automaton knows about the pairs consumed so far (`p` = the list of
    elements consumed, the last one being the left element of the next pair) -/
def Sem : MState → List α → Prop
  | .init, p => ¬ SomePair (· < ·) p ∧ ¬ SomePair (· = ·) p ∧ ¬ SomePair (· > ·) p
  | .notStrict, p => ¬ SomePair (· < ·) p ∧ SomePair (· = ·) p ∧ ¬ SomePair (· > ·) p
  | .likely (.rising true), p => SomePair (· < ·) p ∧ ¬ SomePair (· = ·) p ∧ ¬ SomePair (· > ·) p
  | .likely (.rising false), p => SomePair (· < ·) p ∧ SomePair (· = ·) p ∧ ¬ SomePair (· > ·) p
  | .likely (.falling true), p => ¬ SomePair (· < ·) p ∧ ¬ SomePair (· = ·) p ∧ SomePair (· > ·) p
  | .likely (.falling false), p => ¬ SomePair (· < ·) p ∧ SomePair (· = ·) p ∧ SomePair (· > ·) p
  | .likely .notMonotonic, p => SomePair (· < ·) p ∧ SomePair (· > ·) p

theorem sem_step (s : MState) (p : List α) (a b : α) (h : Sem s (p ++ [a])) :
    Sem (s.update a b) (p ++ [a, b]) := by
  -- exactly one of the three facts holds of the pair read; written as equations with `True` / `False`
  -- so that one `simp only` decides the comparisons of `update` and the clauses of `Sem` in all
  -- 3 × 7 combinations of case and state
  have hp : ((a < b) = True ∧ (a = b) = False ∧ (b < a) = False) ∨
      ((a < b) = False ∧ (a = b) = True ∧ (b < a) = False) ∨
      ((a < b) = False ∧ (a = b) = False ∧ (b < a) = True) := by
    rcases lt_trichotomy a b with hab | hab | hab
    · exact .inl ⟨eq_true hab, eq_false (ne_of_lt hab), eq_false (lt_asymm hab)⟩
    · exact .inr (.inl ⟨eq_false (hab ▸ lt_irrefl a), eq_true hab, eq_false (hab ▸ lt_irrefl a)⟩)
    · exact .inr (.inr ⟨eq_false (lt_asymm hab), eq_false (ne_of_gt hab), eq_true hab⟩)
  rcases hp with ⟨h1, h2, h3⟩ | ⟨h1, h2, h3⟩ | ⟨h1, h2, h3⟩ <;>
    rcases s with _ | _ | (⟨_ | _⟩ | ⟨_ | _⟩ | _) <;>
    simp only [Sem, MState.update, cmp_lt, cmp_eq, cmp_gt, h1, h2, h3, if_true, if_false,
      somePair_snoc, gt_iff_lt, or_true, or_false, and_true, true_and] at h ⊢ <;>
    simp only [h, not_false_eq_true, and_self]

theorem sem_fold (s : MState) (p : List α) (a : α) (rest : List α) (h : Sem s (p ++ [a])) :
    Sem (foldPairsFull s (a :: rest)) (p ++ a :: rest) := by
  induction rest generalizing s p a with
  | nil => simpa [foldPairsFull] using h
  | cons b rest ih =>
    have := ih (s.update a b) (p ++ [a]) b (by simpa using sem_step s p a b h)
    simpa [foldPairsFull] using this

end lawful

section anycmp
variable {α : Type} [Cmp α]

theorem update_dead (a b : α) :
    (MState.likely .notMonotonic).update a b = .likely .notMonotonic := rfl

/-- what every step of the automaton preserves, the fold preserves -/
theorem foldFull_inv {P : MState → Prop} (hP : ∀ s (a b : α), P s → P (s.update a b)) (s : MState)
    (l : List α) (h : P s) : P (foldPairsFull s l) := by
  fun_induction foldPairsFull s l with
  | case1 s a b rest ih => exact ih (hP s a b h)
  | case2 s l _ => exact h

theorem foldFull_dead (l : List α) :
    foldPairsFull (.likely .notMonotonic) l = .likely .notMonotonic :=
  foldFull_inv (P := (· = .likely .notMonotonic)) (by rintro _ a b rfl; exact update_dead a b) _ l rfl

/-- The early exit of `try_fold` is unobservable: stopping at the first `NotMonotonic` gives the
    result of the full fold. -/
theorem C12_shortcircuit (s : MState) (l : List α) (hs : s ≠ .likely .notMonotonic) :
    foldPairs s l =
      (if foldPairsFull s l = .likely .notMonotonic then .error .notMonotonic
       else .ok (foldPairsFull s l)) := by
  induction l generalizing s with
  | nil => simp [foldPairs, foldPairsFull, hs]
  | cons a l ih =>
    cases l with
    | nil => simp [foldPairs, foldPairsFull, hs]
    | cons b l =>
      simp only [foldPairs, foldPairsFull]
      by_cases hd : s.update a b = .likely .notMonotonic
      · simp [hd, MState.shortCircuit, foldFull_dead]
      · have : (s.update a b).shortCircuit = .ok (s.update a b) := by
          generalize s.update a b = t at hd
          rcases t with _ | _ | (_ | _ | _) <;> first | rfl | exact absurd rfl hd
        rw [this]
        exact ih _ hd

theorem monotonicProp_eq (xs : List α) :
    monotonicProp xs =
      if xs.length ≤ 1 then .ok .notMonotonic
      else (foldPairsFull .init xs).finish := by
  unfold monotonicProp
  rw [C12_shortcircuit _ _ (by simp)]
  split
  · rfl
  · by_cases hd : foldPairsFull MState.init xs = .likely .notMonotonic
    · simp [hd, MState.finish]
    · simp [hd]

end anycmp

section classify
variable {α : Type} [LinearOrder α] [Cmp α] [LawfulCmp α]

/-- For a NaN-free scalar type `monotonic_prop` never panics and returns, for every list, exactly
    the class the property text defines. -/
theorem C12_classify (xs : List α) : ∃ m, monotonicProp xs = .ok m ∧ Class α xs m := by
  rw [monotonicProp_eq]
  split
  · next h => exact ⟨_, rfl, .notMonotonic (Or.inl (by omega))⟩
  · next h =>
    cases xs with
    | nil => simp at h
    | cons a rest =>
      have hl : 2 ≤ (a :: rest).length := by omega
      have hs := sem_fold (α := α) .init [] a rest (by simp [Sem, SomePair])
      simp only [List.nil_append] at hs
      generalize foldPairsFull MState.init (a :: rest) = s at hs
      have hlen := len_iff (a :: rest)
      rcases s with _ | _ | (⟨_ | _⟩ | ⟨_ | _⟩ | _) <;> obtain ⟨h1, h2⟩ := hs
      · exact absurd (hlen.mp hl) (not_or.mpr ⟨h1, not_or.mpr h2⟩)
      · exact ⟨_, rfl, .notMonotonic (.inr (.inl ((allEq_iff _).mpr ⟨h1, h2.2⟩)))⟩
      · exact ⟨_, rfl, .rising ((allLe_iff _).mpr h2.2) h2.1 h1⟩
      · exact ⟨_, rfl, .risingStrict hl ((allLt_iff _).mpr h2)⟩
      · exact ⟨_, rfl, .falling ((allGe_iff _).mpr h1) h2.1 h2.2⟩
      · exact ⟨_, rfl, .fallingStrict hl ((allGt_iff _).mpr ⟨h2.1, h1⟩)⟩
      · exact ⟨_, rfl, .notMonotonic (.inr (.inr ⟨h1, h2⟩))⟩

set_option linter.unusedSectionVars false in
/-- The classes are mutually exclusive, so `C12_classify` is the "iff" of the property text. -/
theorem Class.unique (xs : List α) (m m' : Monotonic) (h : Class α xs m) (h' : Class α xs m') :
    m = m' := by
  have s := h.sig
  have s' := h'.sig
  -- the nine pairs (rising, falling, notMonotonic)²: equal kinds have the same strictness flag, different kinds
  -- disagree on whether some pair rises or some pair falls
  rcases m with s1 | s1 | _ <;> rcases m' with s2 | s2 | _ <;> simp only at s s'
  · rw [Bool.eq_iff_iff.mpr (s.2.2.trans s'.2.2.symm)]
  · exact absurd s'.1 s.2.1
  · exact absurd (s'.mp s.1) s.2.1
  · exact absurd s.1 s'.2.1
  · rw [Bool.eq_iff_iff.mpr (s.2.2.trans s'.2.2.symm)]
  · exact absurd (s'.mpr s.1) s.2.1
  · exact absurd (s.mp s'.1) s'.2.1
  · exact absurd (s.mpr s'.1) s'.2.1
  · rfl

/-- The result is `m` if and only if the vector has class `m`. -/
theorem C12_iff (xs : List α) (m : Monotonic) : monotonicProp xs = .ok m ↔ Class α xs m := by
  obtain ⟨m0, h0, c0⟩ := C12_classify xs
  constructor
  · intro h; rw [h0] at h; cases h; exact c0
  · intro h; rw [h0, Class.unique xs m0 m c0 h]

/-- corollary used by the builder (C10): an accepted axis is strictly increasing -/
theorem rising_strict_iff (xs : List α) :
    monotonicProp xs = .ok (.rising true) ↔ 2 ≤ xs.length ∧ AllPairs (· < ·) xs := by
  rw [C12_iff]
  constructor
  · intro h; cases h; constructor <;> assumption
  · intro ⟨h1, h2⟩; exact .risingStrict h1 h2

end classify

section strictInc
variable {α : Type}

theorem strictInc_of_allPairs [Preorder α] (xs : List α) (hl : 2 ≤ xs.length)
    (h : AllPairs (· < ·) xs) : StrictInc xs := by
  refine ⟨hl, ?_⟩
  clear hl
  induction xs with
  | nil => intro i j _ hj; simp at hj
  | cons a l ih =>
    cases l with
    | nil => intro i j hij hj; simp at hj; omega
    | cons b l =>
      have ih' := ih h.2
      intro i j hij hj
      match i, j, hij with
      | 0, j + 1, _ =>
        cases j with
        | zero => exact h.1
        | succ j =>
          exact lt_trans h.1 (ih' 0 (j + 1) (by omega) (by simpa using hj))
      | i + 1, j + 1, _ => exact ih' i j (by omega) (by simpa using hj)

theorem allPairs_of_strictInc [LT α] (xs : List α) (h : StrictInc xs) : AllPairs (· < ·) xs := by
  replace h := h.2
  induction xs with
  | nil => trivial
  | cons a l ih =>
    cases l with
    | nil => trivial
    | cons b l =>
      refine ⟨h 0 1 (by omega) (by simp), ih ?_⟩
      intro i j hij hj
      have := h (i + 1) (j + 1) (by omega) (by simpa using hj)
      simpa using this

/-- the axis a successful `build()` stores is strictly increasing (C12 ⇒ C10, C11) -/
theorem strictInc_of_monotonicProp [LinearOrder α] [Cmp α] [LawfulCmp α] (xs : List α)
    (h : monotonicProp xs = .ok (.rising true)) : StrictInc xs := by
  obtain ⟨h1, h2⟩ := (rising_strict_iff xs).mp h
  exact strictInc_of_allPairs xs h1 h2

end strictInc

section nan
variable {α : Type} [Cmp α]

/-- a consecutive pair that is neither `<` nor `==` by the scalar's own tests
    (every pair containing a NaN is one) -/
def BadPair (a b : α) : Prop := Cmp.lt a b = false ∧ Cmp.eq a b = false

/-- states from which `Rising` can no longer be reached -/
def Dead : MState → Prop
  | .likely (.falling _) => True
  | .likely .notMonotonic => True
  | _ => False

theorem dead_of_bad (s : MState) (a b : α) (h : BadPair a b) : Dead (s.update a b) := by
  -- by inspection of `update`: with `lt` and `eq` false every state takes its last arm, which is `Falling _` or
  -- `NotMonotonic` (for a falling state the `gt` test decides which)
  rcases s with _ | _ | (⟨_ | _⟩ | ⟨_ | _⟩ | _) <;>
    simp only [MState.update, h.1, h.2, Bool.false_eq_true, if_false] <;>
    first | trivial | (split <;> trivial)

theorem dead_step (s : MState) (a b : α) (h : Dead s) : Dead (s.update a b) := by
  -- by inspection of `update`: every arm of a falling state is falling or `NotMonotonic`, and `NotMonotonic` is absorbing
  rcases s with _ | _ | (⟨_ | _⟩ | ⟨_ | _⟩ | _) <;> simp only [Dead] at h <;>
    simp only [MState.update] <;> first | trivial | (split <;> first | trivial | (split <;> trivial))

theorem dead_of_somePair (s : MState) (l : List α) (h : SomePair BadPair l) :
    Dead (foldPairsFull s l) := by
  induction l generalizing s with
  | nil => exact h.elim
  | cons a l ih =>
    cases l with
    | nil => exact h.elim
    | cons b l =>
      rcases h with h | h
      · exact foldFull_inv dead_step _ (b :: l) (dead_of_bad s a b h)
      · exact ih _ h

/-- A vector with a pair that is neither `<` nor `==` is never `Rising`, whatever the comparison
    operators do otherwise (IEEE NaN included). -/
theorem C12_nan (xs : List α) (h : SomePair BadPair xs) (strict : Bool) :
    monotonicProp xs ≠ .ok (.rising strict) := by
  rw [monotonicProp_eq]
  split
  · simp
  · have hd := dead_of_somePair .init xs h
    generalize foldPairsFull MState.init xs = s at hd
    rcases s with _ | _ | (⟨_ | _⟩ | ⟨_ | _⟩ | _) <;> simp [Dead, MState.finish] at hd ⊢

end nan

end NdInterp
