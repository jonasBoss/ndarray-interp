/-
C18 — custom strategies get validated inputs, correct targets, faithful accessors.

Model: `buildCustom1` / `buildCustom2` (the builders with an arbitrary user strategy builder `sb`,
declared minimum `minLen`) and the generic entry points `ep*` over an arbitrary strategy call `f`.
-/
import NdInterp.Lemmas.Batch
import NdInterp.Lemmas.LinearCore

namespace NdInterp

section build
variable {α σ : Type} [Cmp α] [NatCast α]

/-- `sb` is consulted only after validation succeeded — if validation fails the result does not depend on `sb` at
    all — and then it receives exactly the validated axis (the one passed in, or the default index axis:
    `C10_axis_unmodified`) and the data, unmodified.  By `C10_iff_1d` that axis has the data's length, at least
    `minLen` points and is `AxisOK` (`2 ≤ length` and `AllPairs (· < ·)`), which `strictInc_of_allPairs`
    (`Props/C12`) turns into the `StrictInc` the strategy theorems assume. -/
theorem C18_build_guard (minLen : Nat) (sb sb' : List α → NdArr α → Except Fault σ)
    (x : Option (List α)) (data : NdArr α) :
    (∀ e, validate1 minLen x data = .error e →
      buildCustom1 minLen sb x data = .error e ∧ buildCustom1 minLen sb' x data = .error e) ∧
    (∀ xs, validate1 minLen x data = .ok xs →
      buildCustom1 minLen sb x data =
        (match sb xs data with
         | .error e => .error e
         | .ok s => .ok (xs, data, s))) := by
  unfold buildCustom1
  constructor
  · intro e h
    simp [h, bind, Except.bind]
  · intro xs h
    simp only [h, bind, Except.bind, pure, Except.pure]
    cases sb xs data <;> rfl

/-- The strategy builder's error reaches the caller unchanged. -/
theorem C18_build_error (minLen : Nat) (sb : List α → NdArr α → Except Fault σ)
    (x : Option (List α)) (data : NdArr α) (xs : List α) (e : Fault)
    (hv : validate1 minLen x data = .ok xs) (hb : sb xs data = .error e) :
    buildCustom1 minLen sb x data = .error e := by
  rw [(C18_build_guard minLen sb sb x data).2 xs hv, hb]

/-- … and the same for the 2-D builder. -/
theorem C18_build_guard_2d (minLen : Nat) (sb sb' : List α → List α → NdArr α → Except Fault σ)
    (x y : Option (List α)) (data : NdArr α) :
    (∀ e, validate2 minLen x y data = .error e →
      buildCustom2 minLen sb x y data = .error e ∧ buildCustom2 minLen sb' x y data = .error e) ∧
    (∀ xs ys, validate2 minLen x y data = .ok (xs, ys) →
      buildCustom2 minLen sb x y data =
        (match sb xs ys data with
         | .error e => .error e
         | .ok s => .ok (xs, ys, data, s))) := by
  unfold buildCustom2
  constructor
  · intro e h
    simp [h, bind, Except.bind]
  · intro xs ys h
    simp only [h, bind, Except.bind, pure, Except.pure]
    cases sb xs ys data <;> rfl

end build

section calls
variable {α β : Type}

/-- the strategy calls an entry point makes: the query elements in logical order up to and
    including the first failing one -/
def callLog (f : β → Except Fault (List α)) : List β → List β
  | [] => []
  | q :: qs =>
    match f q with
    | .error _ => [q]
    | .ok _ => q :: callLog f qs

def interpEachLog (f : β → Except Fault (List α)) :
    List β → Except Fault (List (List α)) × List β
  | [] => (.ok [], [])
  | q :: qs =>
    match f q with
    | .error e => (.error e, [q])
    | .ok v =>
      let (r, log) := interpEachLog f qs
      (match r with
       | .error e => .error e
       | .ok vs => .ok (v :: vs), q :: log)

/-- For every entry point the strategy's `interp_into` is invoked on the query elements in logical order, once
    each, unmodified, stopping right after the first failing call: the instrumented loop returns what the entry
    points return and its log is `callLog`. -/
theorem C18_calls (f : β → Except Fault (List α)) (qs : List β) :
    (interpEachLog f qs).1 = interpEach f qs ∧ (interpEachLog f qs).2 = callLog f qs := by
  induction qs with
  | nil => exact ⟨rfl, rfl⟩
  | cons q qs ih =>
    simp only [interpEachLog, interpEach, callLog]
    cases f q with
    | error e => exact ⟨rfl, rfl⟩
    | ok v => rw [← ih.1, ← ih.2]; exact ⟨rfl, rfl⟩

/-- The call log is a prefix of the query elements, and all of them if no call failed. -/
theorem C18_calls_prefix (f : β → Except Fault (List α)) (qs : List β) :
    ∃ rest, qs = callLog f qs ++ rest ∧
      ((∃ vs, interpEach f qs = .ok vs) → rest = []) := by
  induction qs with
  | nil => exact ⟨[], rfl, fun _ => rfl⟩
  | cons q qs ih =>
    obtain ⟨rest, h1, h2⟩ := ih
    simp only [callLog, interpEach]
    cases f q with
    | error e => exact ⟨qs, rfl, nofun⟩
    | ok v =>
      refine ⟨rest, congrArg (q :: ·) h1, fun ⟨vs, h⟩ => h2 ?_⟩
      cases hr : interpEach f qs with
      | error e => rw [hr] at h; cases h
      | ok vs' => exact ⟨vs', rfl⟩

/-- The first error of the strategy's `interp_into` is the result of every
    entry point, unchanged. -/
theorem C18_call_error (trailing : List Nat) (f : β → Except Fault (List α)) (qshape : List Nat)
    (qs : List β) (q : β) (e : Fault) (hq : f q = .error e) :
    epInterp trailing f q = .error e ∧ epScalar f q = .error e ∧
    (∀ b, epInterpInto trailing f q b = .error e) ∧
    (∀ pre post, qs = pre ++ q :: post → (∀ p ∈ pre, ∃ v, f p = .ok v) →
      epArray trailing f qshape qs = .error e ∧
      epArrayInto trailing f qshape qs (qshape ++ trailing) = .error e) := by
  refine ⟨by simp [epInterp, hq], by simp [epScalar, hq], fun b => by simp [epInterpInto, hq], ?_⟩
  intro pre post hqs hpre
  have key : interpEach f qs = .error e :=
    interpEach_eq_mapM f qs ▸ (mapM_eq_error f e qs).mpr ⟨pre, q, post, hqs, hpre, hq⟩
  exact ⟨by simp [epArray, key], by simp [epArrayInto, epArray, key]⟩

end calls

section accessors
variable {α : Type} [Field α] [LinearOrder α] [IsStrictOrderedRing α] [Cmp α] [LawfulCmp α]
  [ToUsize α] [LawfulToUsize α]

/-- What a strategy sees through the interpolator's accessors. -/
theorem C18_accessors (xs : List α) (rows : List (List α)) (q : α) (i : Nat)
    (hs : StrictInc xs) (hl : rows.length = xs.length) (hlen : xs.length < 2 ^ 64)
    (hi : i < xs.length) :
    -- `index_point(i)`
    (rd xs i = .ok xs[i] ∧ rd rows i = .ok (rows[i]'(by omega))) ∧
    -- `is_in_range(q)` is the closed-range test
    (isInRange xs q = .ok (decide (InRange xs q))) ∧
    -- `get_index_left_of(q)` is the bracketing index of C11
    (∃ j, lowerIndex xs q = .ok j ∧ Bracket xs q j) :=
  ⟨⟨rd_eq xs i hi, rd_eq rows i (by omega)⟩, isInRange_eq xs q (by omega), C11_exact xs q hs hlen⟩

end accessors

end NdInterp
