/-
C15 — results are independent of the units of the axis and linear in the data.

Over ordered fields (exact statement; "otherwise up to rounding") two maps: a change of units — axis and query
through any `f` with `f a - f b = c (a - b)` (shift, scaling), data times `t`, boundary derivative values
converted — and the sum of two data sets.  Linear, Bilinear: scaling of the data is an instance of the bit-for-bit
half (`DataHom`: arbitrary scalar type, arbitrary operations); the rest by handing both calls the same bracket.
Non-periodic spline: identities of the algorithm, with no condition on the knots (`Lemmas/SplineLinear`,
`Lemmas/Linearity`).  Periodic spline: each map carries solutions of the cyclic system to solutions, and the solve
answers exactly its solution (`solveForK_periodic_iff`, any `n ≥ 3`).
-/
import NdInterp.Props.C03
import NdInterp.Lemmas.Linearity
import NdInterp.Lemmas.SplineLinear

namespace NdInterp

section hom
variable {α : Type} [Cmp α] [Add α] [Sub α] [Mul α] [Div α] [NatCast α] [ToUsize α]

/-- `φ` commutes with the four operations `calc_frac` applies to data, the way an exact scaling (power of two,
    negation) does -/
structure DataHom (φ : α → α) : Prop where
  add : ∀ a b, φ (a + b) = φ a + φ b
  sub : ∀ a b, φ (a - b) = φ a - φ b
  div : ∀ a d, φ a / d = φ (a / d)
  mul : ∀ a t, φ a * t = φ (a * t)

theorem calcFrac_dataHom (φ : α → α) (h : DataHom φ) (x1 y1 x2 y2 q : α) :
    calcFrac x1 (φ y1) x2 (φ y2) q = φ (calcFrac x1 y1 x2 y2 q) := by
  simp only [calcFrac, ← h.sub, h.div, h.mul, ← h.add]

/-- Linear commutes with every such map of the data: bit-for-bit for exact scalings. -/
theorem C15_hom_linear_data (φ : α → α) (h : DataHom φ) (ext : Bool) (xs ys : List α) (q : α) :
    linearInterp (V := α) ext xs (ys.map φ) q = (linearInterp (V := α) ext xs ys q).map φ := by
  simp only [linearInterp, rd_map, Except.map_bind, Except.bind_map, Except.map_pure, map2_scalar,
    calcFrac_dataHom φ h]

/-- So does Bilinear. -/
theorem hom_bilinear_data (φ : α → α) (h : DataHom φ) (ext : Bool) (xs ys : List α) (zs : List (List α))
    (x y : α) :
    bilinearInterp (V := α) ext xs ys (zs.map (·.map φ)) x y =
      (bilinearInterp (V := α) ext xs ys zs x y).map φ := by
  simp only [bilinearInterp, rd_map, Except.map_bind, Except.bind_map, Except.map_pure, map4_scalar,
    calcFrac_dataHom φ h]

end hom

section
variable {F : Type} [Field F]

theorem dataHom_mul (c : F) : DataHom (c * ·) :=
  ⟨mul_add c, mul_sub c, fun a d => mul_div_assoc c a d, fun a t => mul_assoc c a t⟩

theorem id_units (a b : F) : id a - id b = 1 * (a - b) := (one_mul _).symm

theorem scale_units (c a b : F) : c * a - c * b = c * (a - b) := (mul_sub c a b).symm

theorem shift_units (d a b : F) : a + d - (b + d) = 1 * (a - b) := by rw [add_sub_add_right_eq_sub, one_mul]

theorem calcFrac_units {f : F → F} {c : F} (hc : c ≠ 0) (hf : ∀ a b, f a - f b = c * (a - b))
    (x1 y1 x2 y2 q : F) : calcFrac (f x1) y1 (f x2) y2 (f q) = calcFrac x1 y1 x2 y2 q := by
  simp only [calcFrac, hf, div_mul_cancel_common hc]

theorem knotEq_units (c t : F) (hc : c ≠ 0) {h0 h1 d0 d1 k0 k1 k2 : F} (h : knotEq h0 h1 d0 d1 k0 k1 k2) :
    knotEq (c * h0) (c * h1) (t * d0) (t * d1) (t / c * k0) (t / c * k1) (t / c * k2) := by
  unfold knotEq at h ⊢
  rw [units_quot c t hc, units_quot c t hc]
  linear_combination t * h + (h1 * k0 + 2 * (h1 + h0) * k1 + h0 * k2) * mul_div_cancel₀ t hc

theorem knotEq_add {h0 h1 d0 d1 e0 e1 k0 k1 k2 l0 l1 l2 : F} (a : knotEq h0 h1 d0 d1 k0 k1 k2)
    (b : knotEq h0 h1 e0 e1 l0 l1 l2) :
    knotEq h0 h1 (d0 + e0) (d1 + e1) (k0 + l0) (k1 + l1) (k2 + l2) := by
  unfold knotEq at a b ⊢
  linear_combination a + b

variable {x y z k l : ℕ → F} {n : ℕ}

theorem Cyclic.units (f : F → F) (c t : F) (hc : c ≠ 0) (hf : ∀ a b, f a - f b = c * (a - b))
    (h : Cyclic x y k n) : Cyclic (fun i => f (x i)) (fun i => t * y i) (fun i => t / c * k i) n := by
  obtain ⟨hi, hl, hcl⟩ := h
  refine ⟨fun j hj => ?_, by simp only [hl], ?_⟩
  · simpa only [IntEq, hf, ← mul_sub] using knotEq_units c t hc (hi j hj)
  · simpa only [hf, ← mul_sub] using knotEq_units c t hc hcl

theorem Cyclic.add (h1 : Cyclic x y k n) (h2 : Cyclic x z l n) :
    Cyclic x (fun i => y i + z i) (fun i => k i + l i) n := by
  obtain ⟨hi, hl, hc⟩ := h1
  obtain ⟨hi', hl', hc'⟩ := h2
  refine ⟨fun j hj => ?_, by simp only [hl, hl'], ?_⟩
  · simpa only [IntEq, add_sub_add_comm] using knotEq_add (hi j hj) (hi' j hj)
  · simpa only [add_sub_add_comm] using knotEq_add hc hc'

/-- the cyclic system reads `x` only at `0 .. n-1` -/
theorem Cyclic.congr_x {x' : ℕ → F} (hn : 3 ≤ n) (hx : ∀ i, i < n → x' i = x i) (h : Cyclic x y k n) :
    Cyclic x' y k n := by
  obtain ⟨hi, hl, hc⟩ := h
  refine ⟨fun j hj => ?_, hl, ?_⟩
  · simpa only [IntEq, hx j (by omega), hx (j + 1) (by omega), hx (j + 2) hj] using hi j hj
  · simpa only [hx 0 (by omega), hx 1 (by omega), hx (n - 1) (by omega), hx (n - 2) (by omega)] using hc

theorem getD_map_mul (c : F) (l : List F) (i : ℕ) : (l.map (c * ·)).getD i 0 = c * l.getD i 0 := by
  simpa only [mul_zero] using getD_map (c * ·) l 0 i

theorem getD_zipWith_add (a b : List F) (h : a.length = b.length) (i : ℕ) :
    (List.zipWith (· + ·) a b).getD i 0 = a.getD i 0 + b.getD i 0 := by
  simpa only [add_zero] using getD_zipWith (· + ·) a b h 0 0 i

variable [Cmp F]

/-- The non-periodic spline under a change of units (boundary derivative values converted: `FirstDeriv t v / c`,
    `SecondDeriv t v / c²`): the slopes are multiplied by `t / c` and every piece by `t`. -/
theorem spline_units (f : F → F) (c t : F) (hc : c ≠ 0) (hf : ∀ a b, f a - f b = c * (a - b))
    (xs ys ks : List F) (hy : ys.length = xs.length) (hn : 3 ≤ xs.length)
    (left right : SingleBoundary F) (hk : ks.length = xs.length)
    (h : solveForK (V := F) xs ys (.mixed left right) = .ok ks) :
    solveForK (V := F) (xs.map f) (ys.map (t * ·))
        (.mixed ((left.scale t).scaleAxis c) ((right.scale t).scaleAxis c)) = .ok (ks.map (t / c * ·)) ∧
    ∀ i (hi : i + 1 < xs.length) q,
      (pieceAt (xs.map f) (ys.map (t * ·)) (ks.map (t / c * ·)) i (by simpa using hi) (by simpa using hy)
        (by simpa using hk)).eval (f q) = t * (pieceAt xs ys ks i hi hy hk).eval q := by
  refine ⟨solveForK_units f c t hc hf xs ys hy hn left right h, fun i hi q => ?_⟩
  simp only [pieceAt, List.getElem_map]
  exact pieceCubic_units f c t hc hf _ _ _ _ _ _ q

end

section
variable {F : Type} [LinearOrder F]

theorem strictInc_map (f : F → F) (hf : StrictMono f) (xs : List F) (hs : StrictInc xs) :
    StrictInc (xs.map f) :=
  ⟨by simpa using hs.1, fun i j hij hj => by simpa using hf (hs.2 i j hij (by simpa using hj))⟩

theorem bracket_map (f : F → F) (hf : StrictMono f) (xs : List F) (q : F) (i : Nat)
    (hs : StrictInc xs) (hb : Bracket xs q i) : Bracket (xs.map f) (f q) i := by
  obtain ⟨hi, lo, up⟩ := (bracket_iff hs).mp hb
  refine (bracket_iff (strictInc_map f hf xs hs)).mpr ⟨by simpa using hi, fun h => ?_, fun h => ?_⟩
  · simpa only [List.getElem_map] using hf.monotone (lo h)
  · simpa only [List.getElem_map] using hf (up (by simpa using h))

theorem inRange_map (f : F → F) (hf : StrictMono f) (xs : List F) (q : F) :
    InRange (xs.map f) (f q) ↔ InRange xs q := by
  simp only [InRange, List.length_map, List.getElem_map, hf.le_iff_le]

variable [Field F] [IsStrictOrderedRing F]

theorem strictMono_units {f : F → F} {c : F} (hc : 0 < c) (hf : ∀ a b, f a - f b = c * (a - b)) :
    StrictMono f :=
  fun a b h => sub_pos.mp (by rw [hf]; exact mul_pos hc (sub_pos.mpr h))

end

section field
variable {F : Type} [Field F] [LinearOrder F] [IsStrictOrderedRing F] [Cmp F] [LawfulCmp F]
  [ToUsize F] [LawfulToUsize F]

/-- Multiplying the data by `c` multiplies the result by `c`. -/
theorem C15_linear_scale_data (ext : Bool) (xs ys : List F) (c q : F)
    (hs : StrictInc xs) (hl : ys.length = xs.length) (hlen : xs.length < 2 ^ 64) :
    linearInterp (V := F) ext xs (ys.map (c * ·)) q =
      (linearInterp (V := F) ext xs ys q).map (c * ·) :=
  C15_hom_linear_data (c * ·) (dataHom_mul c) ext xs ys q

/-- The result for a sum of data sets is the sum of the results. -/
theorem C15_linear_add (ext : Bool) (xs ys zs : List F) (q : F)
    (hs : StrictInc xs) (hl : ys.length = xs.length) (hl' : zs.length = xs.length)
    (hlen : xs.length < 2 ^ 64) (r1 r2 : F)
    (h1 : linearInterp (V := F) ext xs ys q = .ok r1) (h2 : linearInterp (V := F) ext xs zs q = .ok r2) :
    linearInterp (V := F) ext xs (List.zipWith (· + ·) ys zs) q = .ok (r1 + r2) := by
  obtain ⟨i, hb⟩ := exists_bracket xs q hs hlen
  rw [linearInterp_of_bracket ext _ hs (by simp [hl, hl']) hlen hb]
  rw [linearInterp_of_bracket ext ys hs hl hlen hb] at h1
  rw [linearInterp_of_bracket ext zs hs hl' hlen hb] at h2
  split at h1
  · next hok =>
    rw [if_pos hok] at h2 ⊢
    cases h1; cases h2
    simp only [linePiece, map2_scalar, List.getElem_zipWith, calcFrac]
    congr 1
    ring
  · cases h1

/-- Re-labelling axis and query by a strictly increasing `f` that
    `calc_frac` commutes with leaves the result unchanged. -/
theorem C15_linear_axis_map (f : F → F) (hf : StrictMono f)
    (hcf : ∀ x1 y1 x2 y2 q : F, x1 ≠ x2 → calcFrac (f x1) y1 (f x2) y2 (f q) = calcFrac x1 y1 x2 y2 q)
    (ext : Bool) (xs ys : List F) (q : F)
    (hs : StrictInc xs) (hl : ys.length = xs.length) (hlen : xs.length < 2 ^ 64) :
    linearInterp (V := F) ext (xs.map f) ys (f q) = linearInterp (V := F) ext xs ys q := by
  obtain ⟨i, hb⟩ := exists_bracket xs q hs hlen
  have hlt := hb.lt_len
  rw [linearInterp_of_bracket ext ys hs hl hlen hb,
    linearInterp_of_bracket ext ys (strictInc_map f hf xs hs) (by simpa using hl) (by simpa using hlen)
      (bracket_map f hf xs q i hs hb)]
  simp only [inRange_map f hf, linePiece, List.getElem_map, map2_scalar,
    hcf _ _ _ _ _ (hs.lt_succ hlt).ne]

theorem linear_units (f : F → F) (c : F) (hc : 0 < c) (hf : ∀ a b, f a - f b = c * (a - b))
    (ext : Bool) (xs ys : List F) (q : F)
    (hs : StrictInc xs) (hl : ys.length = xs.length) (hlen : xs.length < 2 ^ 64) :
    linearInterp (V := F) ext (xs.map f) ys (f q) = linearInterp (V := F) ext xs ys q :=
  C15_linear_axis_map f (strictMono_units hc hf) (fun _ _ _ _ _ _ => calcFrac_units hc.ne' hf _ _ _ _ _)
    ext xs ys q hs hl hlen

/-- Multiplying axis and query by `c > 0` leaves the result unchanged. -/
theorem C15_linear_scale_axis (c : F) (hc : 0 < c) (ext : Bool) (xs ys : List F) (q : F)
    (hs : StrictInc xs) (hl : ys.length = xs.length) (hlen : xs.length < 2 ^ 64) :
    linearInterp (V := F) ext (xs.map (c * ·)) ys (c * q) = linearInterp (V := F) ext xs ys q :=
  linear_units (c * ·) c hc (scale_units c) ext xs ys q hs hl hlen

/-- Shifting axis and query by the same amount leaves the result unchanged. -/
theorem C15_linear_shift (d : F) (ext : Bool) (xs ys : List F) (q : F)
    (hs : StrictInc xs) (hl : ys.length = xs.length) (hlen : xs.length < 2 ^ 64) :
    linearInterp (V := F) ext (xs.map (· + d)) ys (q + d) = linearInterp (V := F) ext xs ys q :=
  linear_units (· + d) 1 one_pos (shift_units d) ext xs ys q hs hl hlen

/-- Multiplying the grid data by `c` multiplies the result by `c`. -/
theorem C15_bilinear_scale_data (ext : Bool) (xs ys : List F) (zs : List (List F)) (c x y : F)
    (hsx : StrictInc xs) (hsy : StrictInc ys) (hg : GridOK zs xs.length ys.length)
    (hlx : xs.length < 2 ^ 64) (hly : ys.length < 2 ^ 64) :
    bilinearInterp (V := F) ext xs ys (zs.map (fun r => r.map (c * ·))) x y =
      (bilinearInterp (V := F) ext xs ys zs x y).map (c * ·) :=
  hom_bilinear_data (c * ·) (dataHom_mul c) ext xs ys zs x y

/-- Multiplying the data and the boundary derivative values by `c`
    multiplies the slopes and every cubic piece by `c` (every non-periodic boundary pair). -/
theorem C15_spline_scale_data (c : F) (xs ys ks : List F) (hy : ys.length = xs.length)
    (hn : 3 ≤ xs.length) (left right : SingleBoundary F) (hk : ks.length = xs.length)
    (h : solveForK (V := F) xs ys (.mixed left right) = .ok ks) :
    solveForK (V := F) xs (ys.map (c * ·)) (.mixed (left.scale c) (right.scale c)) = .ok (ks.map (c * ·)) ∧
    ∀ i (hi : i + 1 < xs.length) q,
      (pieceAt xs (ys.map (c * ·)) (ks.map (c * ·)) i hi (by simpa using hy) (by simpa using hk)).eval q =
        c * (pieceAt xs ys ks i hi hy hk).eval q := by
  simpa only [List.map_id, SingleBoundary.scaleAxis_one, div_one, id] using
    spline_units id 1 c one_ne_zero id_units xs ys ks hy hn left right hk h

/-- Superposition: the spline of the sum of two data sets (boundary derivative
    values added, both selections of the same kind at each end) is the sum of the splines: slopes
    and every cubic piece add. -/
theorem C15_spline_add (xs ys zs ks ms : List F) (hy : ys.length = xs.length) (hz : zs.length = xs.length)
    (hn : 3 ≤ xs.length) (l1 l2 r1 r2 : SingleBoundary F)
    (hl : l1.sameKind l2 = true) (hr : r1.sameKind r2 = true)
    (hk : ks.length = xs.length) (hm : ms.length = xs.length)
    (h1 : solveForK (V := F) xs ys (.mixed l1 r1) = .ok ks)
    (h2 : solveForK (V := F) xs zs (.mixed l2 r2) = .ok ms) :
    solveForK (V := F) xs (List.zipWith (· + ·) ys zs) (.mixed (l1.add l2) (r1.add r2)) =
      .ok (List.zipWith (· + ·) ks ms) ∧
    ∀ i (hi : i + 1 < xs.length) q,
      (pieceAt xs (List.zipWith (· + ·) ys zs) (List.zipWith (· + ·) ks ms) i hi (by simp [hy, hz])
        (by simp [hk, hm])).eval q =
        (pieceAt xs ys ks i hi hy hk).eval q + (pieceAt xs zs ms i hi hz hm).eval q := by
  refine ⟨solveForK_add xs ys zs hy hz hn hl hr h1 h2, fun i hi q => ?_⟩
  simp only [pieceAt, List.getElem_zipWith]
  exact pieceCubic_add _ _ _ _ _ _ _ _ _ _ q

/-- Shifting axis and query by the same amount leaves slopes and values unchanged. -/
theorem C15_spline_shift (d : F) (xs ys ks : List F) (hy : ys.length = xs.length)
    (hn : 3 ≤ xs.length) (left right : SingleBoundary F) (hk : ks.length = xs.length)
    (h : solveForK (V := F) xs ys (.mixed left right) = .ok ks) :
    solveForK (V := F) (xs.map (· + d)) ys (.mixed left right) = .ok ks ∧
    ∀ i (hi : i + 1 < xs.length) q,
      (pieceAt (xs.map (· + d)) ys ks i (by simpa using hi) (by simpa using hy) (by simpa using hk)).eval (q + d) =
        (pieceAt xs ys ks i hi hy hk).eval q := by
  simpa only [List.map_id', SingleBoundary.scale_one, SingleBoundary.scaleAxis_one, div_one, one_mul] using
    spline_units (· + d) 1 1 one_ne_zero (shift_units d) xs ys ks hy hn left right hk h

/-- The tridiagonal solve is homogeneous in the right-hand sides
    (data and boundary derivative values) — an identity of the algorithm. -/
theorem C15_spline_solver_scale (c : F) (rows : List (Row F F)) :
    thomas (rows.map (scaleRow c)) = (thomas rows).map (c * ·) :=
  thomas_rescale c (List.forall₂_map_left_iff.mpr (List.forall₂_same.mpr fun _ _ => .rhs rfl rfl rfl rfl))

omit [LawfulCmp F] [ToUsize F] [LawfulToUsize F] in
/-- Multiplying the axis by `c > 0` (boundary values converted:
    `FirstDeriv v/c`, `SecondDeriv v/c²`) divides the slopes by `c` and leaves every value unchanged:
    `S_c(c·q) = S(q)`. -/
theorem C15_spline_scale_axis (c : F) (hc : 0 < c) (xs ys ks : List F) (hs : StrictInc xs)
    (hy : ys.length = xs.length) (hn : 3 ≤ xs.length) (left right : SingleBoundary F)
    (hpar : ¬ (xs.length = 3 ∧ isNakPair left right = true)) (hk : ks.length = xs.length)
    (h : solveForK (V := F) xs ys (.mixed left right) = .ok ks) :
    solveForK (V := F) (xs.map (c * ·)) ys (.mixed (left.scaleAxis c) (right.scaleAxis c)) =
      .ok (ks.map (· / c)) ∧
    ∀ i (hi : i + 1 < xs.length) q,
      (pieceAt (xs.map (c * ·)) ys (ks.map (· / c)) i (by simpa using hi) (by simpa using hy)
        (by simpa using hk)).eval (c * q) = (pieceAt xs ys ks i hi hy hk).eval q := by
  simpa only [List.map_id', SingleBoundary.scale_one, one_mul, one_div, inv_mul_eq_div] using
    spline_units (c * ·) c 1 hc.ne' (scale_units c) xs ys ks hy hn left right hk h

section periodicMaps
omit [ToUsize F] [LawfulToUsize F]

/-- `c > 0`: the new axis has to be strictly increasing for the cyclic system to determine the slopes -/
theorem periodic_units (f : F → F) (c t : F) (hc : 0 < c) (hf : ∀ a b, f a - f b = c * (a - b))
    (xs ys ks : List F) (hs : StrictInc xs) (hy : ys.length = xs.length) (hn : 3 ≤ xs.length)
    (h : solveForK (V := F) xs ys .periodic = .ok ks) :
    solveForK (V := F) (xs.map f) (ys.map (t * ·)) .periodic = .ok (ks.map (t / c * ·)) := by
  obtain ⟨hends, hk, hcyc⟩ := (solveForK_periodic_iff xs ys ks hs hy hn).mp h
  refine (solveForK_periodic_iff _ _ _ (strictInc_map f (strictMono_units hc hf) xs hs) (by simpa using hy)
    (by simpa using hn)).mpr ⟨by simpa using congrArg (t * ·) hends, by simpa using hk, ?_⟩
  unfold PeriodicCond
  simp only [List.length_map, getD_map_mul]
  refine (hcyc.units f c t hc.ne' hf).congr_x hn fun i hi => ?_
  simp [List.getD_eq_getElem?_getD, hi]

theorem periodic_add (xs ys zs ks ms : List F) (hs : StrictInc xs)
    (hy : ys.length = xs.length) (hz : zs.length = xs.length) (hn : 3 ≤ xs.length)
    (h1 : solveForK (V := F) xs ys .periodic = .ok ks)
    (h2 : solveForK (V := F) xs zs .periodic = .ok ms) :
    solveForK (V := F) xs (List.zipWith (· + ·) ys zs) .periodic = .ok (List.zipWith (· + ·) ks ms) := by
  obtain ⟨he1, hk, hc1⟩ := (solveForK_periodic_iff xs ys ks hs hy hn).mp h1
  obtain ⟨he2, hm, hc2⟩ := (solveForK_periodic_iff xs zs ms hs hz hn).mp h2
  refine (solveForK_periodic_iff xs _ _ hs (by simp [hy, hz]) hn).mpr
    ⟨by simp only [List.getElem_zipWith, he1, he2], by simp [hk, hm], ?_⟩
  simpa only [PeriodicCond, getD_zipWith_add _ _ (hy.trans hz.symm), getD_zipWith_add _ _ (hk.trans hm.symm)]
    using hc1.add hc2

/-- Periodic, `n ≥ 4`: data × `c` multiplies the slopes by `c`. -/
theorem C15_periodic_scale_data (c : F) (xs ys ks : List F) (hs : StrictInc xs)
    (hy : ys.length = xs.length) (hn : 4 ≤ xs.length)
    (h : solveForK (V := F) xs ys .periodic = .ok ks) :
    solveForK (V := F) xs (ys.map (c * ·)) .periodic = .ok (ks.map (c * ·)) := by
  simpa only [List.map_id, div_one] using periodic_units id 1 c one_pos id_units xs ys ks hs hy (by omega) h

/-- Periodic, `n ≥ 4`: the slopes for a sum of data sets are the sums of the slopes. -/
theorem C15_periodic_add (xs ys zs ks ms : List F) (hs : StrictInc xs)
    (hy : ys.length = xs.length) (hz : zs.length = xs.length) (hn : 4 ≤ xs.length)
    (h1 : solveForK (V := F) xs ys .periodic = .ok ks)
    (h2 : solveForK (V := F) xs zs .periodic = .ok ms) :
    solveForK (V := F) xs (List.zipWith (· + ·) ys zs) .periodic = .ok (List.zipWith (· + ·) ks ms) :=
  periodic_add xs ys zs ks ms hs hy hz (by omega) h1 h2

/-- Periodic, `n ≥ 4`: shifting the axis leaves the slopes unchanged. -/
theorem C15_periodic_shift (d : F) (xs ys ks : List F) (hs : StrictInc xs)
    (hy : ys.length = xs.length) (hn : 4 ≤ xs.length)
    (h : solveForK (V := F) xs ys .periodic = .ok ks) :
    solveForK (V := F) (xs.map (· + d)) ys .periodic = .ok ks := by
  simpa only [List.map_id', div_one, one_mul] using
    periodic_units (· + d) 1 1 one_pos (shift_units d) xs ys ks hs hy (by omega) h

/-- Periodic, `n ≥ 4`: axis × `c > 0` divides the slopes by `c` (values unchanged by `pieceCubic_units`). -/
theorem C15_periodic_scale_axis (c : F) (hc0 : 0 < c) (xs ys ks : List F) (hs : StrictInc xs)
    (hy : ys.length = xs.length) (hn : 4 ≤ xs.length)
    (h : solveForK (V := F) xs ys .periodic = .ok ks) :
    solveForK (V := F) (xs.map (c * ·)) ys .periodic = .ok (ks.map (· / c)) := by
  simpa only [List.map_id', one_mul, one_div, inv_mul_eq_div] using
    periodic_units (c * ·) c 1 hc0 (scale_units c) xs ys ks hs hy (by omega) h

/-- Three points, Periodic: data × `c` multiplies the slopes by `c`. -/
theorem C15_periodic3_scale_data (c : F) (xs ys ks : List F) (hs : StrictInc xs)
    (hy : ys.length = xs.length) (h3 : xs.length = 3)
    (h : solveForK (V := F) xs ys .periodic = .ok ks) :
    solveForK (V := F) xs (ys.map (c * ·)) .periodic = .ok (ks.map (c * ·)) := by
  simpa only [List.map_id, div_one] using periodic_units id 1 c one_pos id_units xs ys ks hs hy (by omega) h

/-- Three points, Periodic: superposition. -/
theorem C15_periodic3_add (xs ys zs ks ms : List F) (hs : StrictInc xs)
    (hy : ys.length = xs.length) (hz : zs.length = xs.length) (h3 : xs.length = 3)
    (h1 : solveForK (V := F) xs ys .periodic = .ok ks)
    (h2 : solveForK (V := F) xs zs .periodic = .ok ms) :
    solveForK (V := F) xs (List.zipWith (· + ·) ys zs) .periodic = .ok (List.zipWith (· + ·) ks ms) :=
  periodic_add xs ys zs ks ms hs hy hz (by omega) h1 h2

/-- Three points, Periodic: axis × `c > 0` divides the slopes by `c`. -/
theorem C15_periodic3_scale_axis (c : F) (hc0 : 0 < c) (xs ys ks : List F) (hs : StrictInc xs)
    (hy : ys.length = xs.length) (h3 : xs.length = 3)
    (h : solveForK (V := F) xs ys .periodic = .ok ks) :
    solveForK (V := F) (xs.map (c * ·)) ys .periodic = .ok (ks.map (· / c)) := by
  simpa only [List.map_id', one_mul, one_div, inv_mul_eq_div] using
    periodic_units (c * ·) c 1 hc0 (scale_units c) xs ys ks hs hy (by omega) h

/-- Three points, Periodic: shifting the axis leaves the slopes unchanged (no `StrictInc`: read off the closed
    form). -/
theorem C15_periodic3_shift (d : F) (xs ys ks : List F)
    (hy : ys.length = xs.length) (h3 : xs.length = 3)
    (h : solveForK (V := F) xs ys .periodic = .ok ks) :
    solveForK (V := F) (xs.map (· + d)) ys .periodic = .ok ks := by
  rw [solveForK_periodic3_eq xs ys hy h3] at h
  rw [solveForK_periodic3_eq _ ys (by simpa using hy) (by simpa using h3), ← h]
  simp only [periodic3, endsOf, Ends.dx0, Ends.dx1, List.getElem_map, add_sub_add_right_eq_sub]

end periodicMaps

end field

end NdInterp
