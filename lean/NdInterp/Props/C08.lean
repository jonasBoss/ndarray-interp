/-
C08 — every lane of n-dimensional data is interpolated independently.

All statements hold for ARBITRARY scalar operations (no algebraic law is used, only the data
flow), hence bit-for-bit for IEEE arithmetic.
The multi-lane model keeps the structure of the code (diagonals and elimination factors shared by
all lanes, every lane-wise `Zip` one `Lanes.mapN`); the single-lane model is the same code at
`V = α`.  Both are related through the lane projection `row ↦ row[j]?` (`projHom`) and the
embedding `some` (`someHom`), with which every model function commutes (`Lemmas/LanesHom.lean`).
The flattening multi-index ↔ lane of the real arrays is exercised by the check.
-/
import NdInterp.Lemmas.Lawful
import NdInterp.Lemmas.LanesHom
import NdInterp.Lemmas.SplineSys
import NdInterp.Lemmas.Batch

namespace NdInterp

section
variable {α : Type} [Cmp α] [Add α] [Sub α] [Mul α] [Div α] [Neg α] [NatCast α] [ToUsize α]
  [RemEuclid α]

def IsLane (j : Nat) (ys : List (List α)) (y1 : List α) : Prop :=
  ys.map (fun r => r[j]?) = y1.map some

/-- Lane `j` of the n-d `Linear` result is the result of the 1-D interpolator built from lane `j` alone. -/
theorem C08_linear (ext : Bool) (xs : List α) (ys : List (List α)) (y1 : List α) (q : α) (j : Nat)
    (h : IsLane j ys y1) :
    (linearInterp (V := List α) ext xs ys q).map (fun r => r[j]?) =
      (linearInterp (V := α) ext xs y1 q).map some := by
  rw [← linearInterp_nat _ (projHom j), ← linearInterp_nat _ someHom, h]

/-- … and of the n-d `Bilinear` result that of the 2-D interpolator. -/
theorem C08_bilinear (ext : Bool) (xs ys : List α) (zs : List (List (List α))) (z1 : List (List α))
    (x y : α) (j : Nat) (h : zs.map (·.map (fun r => r[j]?)) = z1.map (·.map some)) :
    (bilinearInterp (V := List α) ext xs ys zs x y).map (fun r => r[j]?) =
      (bilinearInterp (V := α) ext xs ys z1 x y).map some := by
  rw [← bilinearInterp_nat _ (projHom j), ← bilinearInterp_nat _ someHom, h]

theorem solveForK_lane (xs : List α) (ys : List (List α)) (y1 : List α) (b : InternalBoundary α)
    (j : Nat) (h : IsLane j ys y1)
    (hper : b.specialize = .periodic → ∀ e, getEnds xs ys = .ok e → Lanes.all2 Cmp.eq e.y0 e.yl1 = true) :
    (solveForK (V := List α) xs ys b).map (List.map (fun r => r[j]?)) =
      (solveForK (V := α) xs y1 b).map (List.map some) := by
  -- the lane's own ends are the projections of the rows' ends, so the lane passes the test the rows pass
  have hper1 : b.specialize = .periodic → ∀ e1, getEnds xs y1 = .ok e1 →
      Lanes.all2 Cmp.eq e1.y0 e1.yl1 = true := fun hb e1 he1 => by
    have hn := getEnds_nat (fun r : List α => r[j]?) xs ys
    rw [h, getEnds_nat, he1] at hn
    obtain ⟨e, he, hn⟩ := Except.map_eq_ok.mp hn.symm
    have hp := (projHom (α := α) j).all2 Cmp.eq e.y0 e.yl1 (hper hb e he)
    rwa [show e.y0[j]? = some e1.y0 from congrArg Ends.y0 hn,
      show e.yl1[j]? = some e1.yl1 from congrArg Ends.yl1 hn] at hp
  rw [← solveForK_nat _ (projHom j) xs ys b hper, ← solveForK_nat _ someHom xs y1 b hper1, h]

/-- Lane `j` of the slopes `solve_for_k` computes for n-d data is `solve_for_k` of lane `j` (Periodic: provided
    the equal-ends test passes on both sides). -/
theorem C08_spline_solve (xs : List α) (ys : List (List α)) (y1 : List α) (b : InternalBoundary α)
    (j : Nat) (h : IsLane j ys y1)
    (hper : b.specialize = .periodic → ∀ e, getEnds xs ys = .ok e → Lanes.all2 Cmp.eq e.y0 e.yl1 = true)
    (hper1 : b.specialize = .periodic → ∀ e, getEnds xs y1 = .ok e → Lanes.all2 Cmp.eq e.y0 e.yl1 = true) :
    (solveForK (V := List α) xs ys b).map (List.map (fun r => r[j]?)) =
      (solveForK (V := α) xs y1 b).map (List.map some) :=
  solveForK_lane xs ys y1 b j h hper

/-- Periodic boundary on n-d data.  The equal-ends test is the one operation that looks at all lanes at
    once; when it passes for the rows it passes for every lane (`all2List_getElem?`), and lane `j` of the slopes is then the
    periodic solve of lane `j` alone. -/
theorem C08_periodic_lanes (xs : List α) (ys : List (List α)) (y1 : List α) (j : Nat) (h : IsLane j ys y1)
    (hall : ∀ e, getEnds xs ys = .ok e → Lanes.all2 Cmp.eq e.y0 e.yl1 = true) :
    (solveForK (V := List α) xs ys .periodic).map (List.map (fun r => r[j]?)) =
      (solveForK (V := α) xs y1 .periodic).map (List.map some) :=
  solveForK_lane xs ys y1 .periodic j h fun _ => hall

/-- … and when the rows' first and last values differ in some lane the n-d build is rejected with a `ValueError`
    (for data long enough to have its end rows), whatever the other lanes hold. -/
theorem C08_periodic_reject (xs : List α) (ys : List (List α)) (e : Ends α (List α))
    (hlen : 3 ≤ ys.length ∧ xs.length = ys.length) (he : getEnds xs ys = .ok e)
    (hbad : Lanes.all2 Cmp.eq e.y0 e.yl1 = false) :
    solveForK (V := List α) xs ys .periodic = .error (.builder .valueError) := by
  rw [solveForK_of_ends xs ys _ hlen he]
  exact if_neg (by rw [hbad]; nofun)

/-- The same for the coefficients `a`, `b` extracted from the slopes … -/
theorem C08_spline_coeffs (xs : List α) (ys ks : List (List α)) (y1 k1 : List α) (j : Nat)
    (h : IsLane j ys y1) (hk : IsLane j ks k1) :
    (coeffs xs ys ks).map (fun p => (p.1[j]?, p.2[j]?)) =
      (coeffs (V := α) xs y1 k1).map (fun p => (some p.1, some p.2)) := by
  rw [← coeffs_nat _ (projHom j), ← coeffs_nat _ someHom, h, hk]

/-- … and for the evaluation (`CubicSplineStrategy::interp_into`). -/
theorem C08_spline_eval (a b : List (List α)) (a1 b1 : List α) (extr : Extrapolate) (xs : List α)
    (ys : List (List α)) (y1 : List α) (q : α) (j : Nat)
    (h : IsLane j ys y1) (ha : IsLane j a a1) (hb : IsLane j b b1) :
    (splineInterp { a := a, b := b, extrapolate := extr } xs ys q).map (fun r => r[j]?) =
      (splineInterp (V := α) { a := a1, b := b1, extrapolate := extr } xs y1 q).map some := by
  rw [← splineInterp_nat _ (projHom j), ← splineInterp_nat _ someHom]
  rw [h, ha, hb]

/-- Changing other lanes leaves lane `j` of a Linear result identical. -/
theorem C08_other_lanes (ext : Bool) (xs : List α) (ys ys' : List (List α)) (q : α) (j : Nat)
    (h : ys.map (fun r => r[j]?) = ys'.map (fun r => r[j]?)) :
    (linearInterp (V := List α) ext xs ys q).map (fun r => r[j]?) =
      (linearInterp (V := List α) ext xs ys' q).map (fun r => r[j]?) := by
  rw [← linearInterp_nat _ (projHom j), ← linearInterp_nat _ (projHom j), h]

/-- … and of the spline's slopes (non-periodic: no check across lanes) -/
theorem C08_other_lanes_spline (xs : List α) (ys ys' : List (List α)) (left right : SingleBoundary α)
    (j : Nat) (h : ys.map (fun r => r[j]?) = ys'.map (fun r => r[j]?)) :
    (solveForK (V := List α) xs ys (.mixed left right)).map (List.map (fun r => r[j]?)) =
      (solveForK (V := List α) xs ys' (.mixed left right)).map (List.map (fun r => r[j]?)) := by
  rw [← solveForK_nat _ (projHom j) xs ys (.mixed left right) nofun,
    ← solveForK_nat _ (projHom j) xs ys' (.mixed left right) nofun, h]

end

section individual
variable {α : Type} [Cmp α] [Add α] [Sub α] [Mul α] [Div α] [Neg α] [NatCast α]

/-- With per-lane boundary conditions (`BoundaryCondition::Individual`) lane `j`
    of the slopes is `solve_for_k` of lane `j` of the data with lane `j`'s own boundary — nothing
    else enters: an answered n-d solve means every lane's own solve was answered, and entry `[i][j]`
    of the result is entry `i` of lane `j`'s slopes. -/
theorem C08_individual (xs : List α) (rows : List (List α)) (L : Nat) (bounds : List (RowBoundary α))
    (ks : List (List α)) (h : solveIndividual xs rows L bounds = .ok ks) (j : Nat) (hj : j < L) :
    ∃ col b kcol, rows.mapM (fun r => rd r j) = .ok col ∧ rd bounds j = .ok b ∧
      solveForK (V := α) xs col b.toInternal = .ok kcol ∧ ks.length = rows.length ∧
      ∀ i (hi : i < ks.length), ∃ v, (ks[i])[j]? = some v ∧ rd kcol i = .ok v := by
  -- `cols[j]` is what lane `j`'s own solve returned …
  obtain ⟨cols, hc, ht⟩ := Except.bind_eq_ok.mp h
  obtain ⟨hcl, hci⟩ := mapM_ok _ _ _ hc
  have hjc : j < cols.length := by simpa [hcl] using hj
  obtain ⟨col, hcol, h2⟩ := Except.bind_eq_ok.mp (hci j (by simpa using hj) hjc)
  obtain ⟨b, hb, hs⟩ := Except.bind_eq_ok.mp h2
  -- … and `ks` is the transpose of `cols`
  obtain ⟨hkl, hki⟩ := mapM_ok _ _ _ ht
  simp only [List.getElem_range, List.length_range] at hcol hb hs hkl hki
  refine ⟨col, b, cols[j], hcol, hb, hs, hkl, fun i hi => ?_⟩
  obtain ⟨hrl, hri⟩ := mapM_ok _ _ _ (hki i (hkl ▸ hi) hi)
  exact ⟨_, List.getElem?_eq_getElem (hrl ▸ hjc), hri j hjc (hrl ▸ hjc)⟩

end individual

section field
variable {F : Type} [Field F] [LinearOrder F] [IsStrictOrderedRing F] [Cmp F] [LawfulCmp F]
  [ToUsize F] [RemEuclid F]

/-- Over an ordered field the n-d build of validated data succeeds (no error, no panic) and lane `j` of its
    slopes is the unique solution of lane `j`'s own system (`solveForK_spec`), so every single-lane theorem
    of C02/C03/C16 holds for every lane of n-d data. -/
theorem C08_spline_build_lanes (xs : List F) (ys : List (List F)) (y1 : List F) (j : Nat)
    (h : IsLane j ys y1) (hs : StrictInc xs) (hy : ys.length = xs.length) (hn : 3 ≤ xs.length)
    (left right : SingleBoundary F) :
    ∃ ks k1, solveForK (V := List F) xs ys (.mixed left right) = .ok ks ∧
      solveForK (V := F) xs y1 (.mixed left right) = .ok k1 ∧ IsLane j ks k1 ∧
      ks.length = xs.length := by
  have hy1 : y1.length = xs.length := by simpa [hy] using (congrArg List.length h).symm
  obtain ⟨k1, hk1, hlen, _, _⟩ := solveForK_spec xs y1 hy1 hn hs left right
  have hnat := solveForK_lane xs ys y1 (.mixed left right) j h nofun
  rw [hk1] at hnat
  obtain ⟨ks, hsol, hnat⟩ := Except.map_eq_ok.mp hnat
  exact ⟨ks, k1, hsol, hk1, hnat, by simpa [hlen] using congrArg List.length hnat⟩

end field

end NdInterp
