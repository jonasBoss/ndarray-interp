/-
Formula tie — the second tie of the model to the code (DESIGN.md §2.3, §9.6).

`NdInterp/Gen/Formulas.lean` holds one definition per arithmetic kernel of the crate, transliterated on every run from
the Rust expression that is in the source now.  Every `FT_*` theorem says: *the model function is what one gets by
putting the generated kernels in place of the model's own expressions* — for every input, over any field.  Hence the
shape of every proof, `first | exact absurd h (by decide) | rfl | script`:
* a kernel the translator could not find (`…_available = false`) makes its theorem vacuous; the check then lists that
  kernel as tied by the correspondence runs only;
* with the source the model was written from the statement is `rfl` (same operations in the same order: this is also
  what lets the operator-generic bit-identity theorems speak about the code);
* after an algebraically equivalent rewrite of the source the script proves it (`field_simp; ring1` under the non-zero
  denominators that strictly increasing axes provide).
After a change of a formula all three fail, which the check reports as a broken proof obligation.
-/
import NdInterp.Gen.Formulas
import NdInterp.Lemmas.SplineSys
import Mathlib.Tactic.FieldSimp
import Mathlib.Tactic.Ring

namespace NdInterp

/-- closes an equation between a model expression and a generated kernel: syntactically equal, or equal in a field -/
macro "ft_alg" : tactic => `(tactic|
  first
  | rfl
  | ((try simp only [c0_eq, c1_eq, c2_eq, c3_eq, NdInterp.sq, NdInterp.Gen.castNat, Nat.cast_zero, Nat.cast_one]) <;>
      (first
        | rfl
        | ring1
        | (field_simp <;> (try simp only [c0_eq, c1_eq, c2_eq, c3_eq, Nat.cast_zero, Nat.cast_one]) <;> ring1)
        | (field_simp; done))))

/-- closes `some row = some row'` / `row = row'` / list-of-rows goals field by field -/
macro "ft_rows" : tactic => `(tactic|
  first
  | rfl
  | ((try simp only [Option.some.injEq, Row.mk.injEq, ERow.mk.injEq, List.cons.injEq, Prod.mk.injEq, and_true, true_and,
       map1_scalar, map2_scalar, map3_scalar, map4_scalar, const_scalar]) <;>
     (repeat' apply And.intro) <;> ft_alg))

end NdInterp
