/-
Formula tie (SplSys): the tridiagonal system of `solve_for_k` (interior rows, every boundary row, the parabola case) and `thomas`.
See `FormulaTie/Basic.lean`.
-/
import NdInterp.Props.FormulaTie.Basic

namespace NdInterp

open Gen

section
variable {F : Type} [Field F]

/-- interior rows `1 … n-2`: diagonals from `x.windows(3)`, right-hand side from the `for n` loop -/
theorem FT_spl_interior (x0 x1 x2 : F) (xs : List F) (y0 y1 y2 : F) (ys : List F)
    (h1 : x1 - x0 ≠ 0) (h2 : x2 - x1 ≠ 0) :
    (interior_lo_available && interior_mid_available && interior_up_available && interior_rhs_available) = true →
    interiorRows (V := F) (x0 :: x1 :: x2 :: xs) (y0 :: y1 :: y2 :: ys) =
      { lo := Gen.interior_lo x0 x1 x2, mid := Gen.interior_mid x0 x1 x2, up := Gen.interior_up x0 x1 x2,
        rhs := Gen.interior_rhs x0 x1 x2 y0 y1 y2 } :: interiorRows (x1 :: x2 :: xs) (y1 :: y2 :: ys) := by
  intro h
  first
  | exact absurd h (by decide)
  | rfl
  | (simp only [interiorRows, Gen.interior_lo, Gen.interior_mid, Gen.interior_up, Gen.interior_rhs] <;> ft_rows)

/-- row 0, NotAKnot -/
theorem FT_spl_left_nak (e : Ends F F) (h0 : e.x1 - e.x0 ≠ 0) (h1 : e.x2 - e.x1 ≠ 0) (hd : e.x2 - e.x0 ≠ 0) :
    (left_nak_mid_available && left_nak_off_available && left_nak_rhs_available) = true →
    firstRow e .notAKnot = some
      { lo := c0
        mid := Gen.left_nak_mid e.x0 e.x1 e.x2 e.xl1 e.xl2 e.xl3 e.y0 e.y1 e.y2 e.yl1 e.yl2 e.yl3
        up := Gen.left_nak_off e.x0 e.x1 e.x2 e.xl1 e.xl2 e.xl3 e.y0 e.y1 e.y2 e.yl1 e.yl2 e.yl3
        rhs := Gen.left_nak_rhs e.x0 e.x1 e.x2 e.xl1 e.xl2 e.xl3 e.y0 e.y1 e.y2 e.yl1 e.yl2 e.yl3 } := by
  intro h
  first
  | exact absurd h (by decide)
  | rfl
  | (simp only [firstRow, Ends.dx0, Ends.dx1, Gen.left_nak_mid, Gen.left_nak_off, Gen.left_nak_rhs] <;> ft_rows)

/-- row 0, FirstDeriv (and Clamped = FirstDeriv 0) -/
theorem FT_spl_left_fd (e : Ends F F) (v : F) :
    (left_fd_mid_available && left_fd_off_available && left_fd_rhs_available) = true →
    firstRow e (.firstDeriv v) = some
      { lo := c0
        mid := Gen.left_fd_mid e.x0 e.x1 e.x2 e.xl1 e.xl2 e.xl3 e.y0 e.y1 e.y2 e.yl1 e.yl2 e.yl3 v
        up := Gen.left_fd_off e.x0 e.x1 e.x2 e.xl1 e.xl2 e.xl3 e.y0 e.y1 e.y2 e.yl1 e.yl2 e.yl3 v
        rhs := Gen.left_fd_rhs e.x0 e.x1 e.x2 e.xl1 e.xl2 e.xl3 e.y0 e.y1 e.y2 e.yl1 e.yl2 e.yl3 v } := by
  intro h
  first
  | exact absurd h (by decide)
  | rfl
  | (simp only [firstRow, Gen.left_fd_mid, Gen.left_fd_off, Gen.left_fd_rhs] <;> ft_rows)

/-- row 0, SecondDeriv (and Natural = SecondDeriv 0) -/
theorem FT_spl_left_sd (e : Ends F F) (v : F) :
    (left_sd_mid_available && left_sd_off_available && left_sd_rhs_available) = true →
    firstRow e (.secondDeriv v) = some
      { lo := c0
        mid := Gen.left_sd_mid e.x0 e.x1 e.x2 e.xl1 e.xl2 e.xl3 e.y0 e.y1 e.y2 e.yl1 e.yl2 e.yl3 v
        up := Gen.left_sd_off e.x0 e.x1 e.x2 e.xl1 e.xl2 e.xl3 e.y0 e.y1 e.y2 e.yl1 e.yl2 e.yl3 v
        rhs := Gen.left_sd_rhs e.x0 e.x1 e.x2 e.xl1 e.xl2 e.xl3 e.y0 e.y1 e.y2 e.yl1 e.yl2 e.yl3 v } := by
  intro h
  first
  | exact absurd h (by decide)
  | rfl
  | (simp only [firstRow, Ends.dx0, Gen.left_sd_mid, Gen.left_sd_off, Gen.left_sd_rhs] <;> ft_rows)

/-- row n-1, NotAKnot -/
theorem FT_spl_right_nak (e : Ends F F) (h1 : e.xl1 - e.xl2 ≠ 0) (h2 : e.xl2 - e.xl3 ≠ 0) (hd : e.xl1 - e.xl3 ≠ 0) :
    (right_nak_mid_available && right_nak_off_available && right_nak_rhs_available) = true →
    lastRow e .notAKnot = some
      { lo := Gen.right_nak_off e.x0 e.x1 e.x2 e.xl1 e.xl2 e.xl3 e.y0 e.y1 e.y2 e.yl1 e.yl2 e.yl3
        mid := Gen.right_nak_mid e.x0 e.x1 e.x2 e.xl1 e.xl2 e.xl3 e.y0 e.y1 e.y2 e.yl1 e.yl2 e.yl3
        up := c0
        rhs := Gen.right_nak_rhs e.x0 e.x1 e.x2 e.xl1 e.xl2 e.xl3 e.y0 e.y1 e.y2 e.yl1 e.yl2 e.yl3 } := by
  intro h
  first
  | exact absurd h (by decide)
  | rfl
  | (simp only [lastRow, Ends.dxl1, Ends.dxl2, Gen.right_nak_mid, Gen.right_nak_off, Gen.right_nak_rhs] <;> ft_rows)

/-- row n-1, FirstDeriv -/
theorem FT_spl_right_fd (e : Ends F F) (v : F) :
    (right_fd_mid_available && right_fd_off_available && right_fd_rhs_available) = true →
    lastRow e (.firstDeriv v) = some
      { lo := Gen.right_fd_off e.x0 e.x1 e.x2 e.xl1 e.xl2 e.xl3 e.y0 e.y1 e.y2 e.yl1 e.yl2 e.yl3 v
        mid := Gen.right_fd_mid e.x0 e.x1 e.x2 e.xl1 e.xl2 e.xl3 e.y0 e.y1 e.y2 e.yl1 e.yl2 e.yl3 v
        up := c0
        rhs := Gen.right_fd_rhs e.x0 e.x1 e.x2 e.xl1 e.xl2 e.xl3 e.y0 e.y1 e.y2 e.yl1 e.yl2 e.yl3 v } := by
  intro h
  first
  | exact absurd h (by decide)
  | rfl
  | (simp only [lastRow, Gen.right_fd_mid, Gen.right_fd_off, Gen.right_fd_rhs] <;> ft_rows)

/-- row n-1, SecondDeriv -/
theorem FT_spl_right_sd (e : Ends F F) (v : F) :
    (right_sd_mid_available && right_sd_off_available && right_sd_rhs_available) = true →
    lastRow e (.secondDeriv v) = some
      { lo := Gen.right_sd_off e.x0 e.x1 e.x2 e.xl1 e.xl2 e.xl3 e.y0 e.y1 e.y2 e.yl1 e.yl2 e.yl3 v
        mid := Gen.right_sd_mid e.x0 e.x1 e.x2 e.xl1 e.xl2 e.xl3 e.y0 e.y1 e.y2 e.yl1 e.yl2 e.yl3 v
        up := c0
        rhs := Gen.right_sd_rhs e.x0 e.x1 e.x2 e.xl1 e.xl2 e.xl3 e.y0 e.y1 e.y2 e.yl1 e.yl2 e.yl3 v } := by
  intro h
  first
  | exact absurd h (by decide)
  | rfl
  | (simp only [lastRow, Ends.dxl1, Gen.right_sd_mid, Gen.right_sd_off, Gen.right_sd_rhs] <;> ft_rows)

/-- the three rows of the 3-point NotAKnot / NotAKnot case -/
theorem FT_spl_parabola (e : Ends F F) (h0 : e.x1 - e.x0 ≠ 0) (h1 : e.x2 - e.x1 ≠ 0) :
    (par_mid0_available && par_up0_available && par_lo1_available && par_mid1_available && par_up1_available &&
      par_lo2_available && par_mid2_available && par_rhs0_available && par_rhs1_available && par_rhs2_available) = true →
    parabolaRows e =
      [ { lo := c0
          mid := Gen.par_mid0 e.x0 e.x1 e.x2 e.xl1 e.xl2 e.xl3 e.y0 e.y1 e.y2 e.yl1 e.yl2 e.yl3
          up := Gen.par_up0 e.x0 e.x1 e.x2 e.xl1 e.xl2 e.xl3 e.y0 e.y1 e.y2 e.yl1 e.yl2 e.yl3
          rhs := Gen.par_rhs0 e.x0 e.x1 e.x2 e.xl1 e.xl2 e.xl3 e.y0 e.y1 e.y2 e.yl1 e.yl2 e.yl3 },
        { lo := Gen.par_lo1 e.x0 e.x1 e.x2 e.xl1 e.xl2 e.xl3 e.y0 e.y1 e.y2 e.yl1 e.yl2 e.yl3
          mid := Gen.par_mid1 e.x0 e.x1 e.x2 e.xl1 e.xl2 e.xl3 e.y0 e.y1 e.y2 e.yl1 e.yl2 e.yl3
          up := Gen.par_up1 e.x0 e.x1 e.x2 e.xl1 e.xl2 e.xl3 e.y0 e.y1 e.y2 e.yl1 e.yl2 e.yl3
          rhs := Gen.par_rhs1 e.x0 e.x1 e.x2 e.xl1 e.xl2 e.xl3 e.y0 e.y1 e.y2 e.yl1 e.yl2 e.yl3 },
        { lo := Gen.par_lo2 e.x0 e.x1 e.x2 e.xl1 e.xl2 e.xl3 e.y0 e.y1 e.y2 e.yl1 e.yl2 e.yl3
          mid := Gen.par_mid2 e.x0 e.x1 e.x2 e.xl1 e.xl2 e.xl3 e.y0 e.y1 e.y2 e.yl1 e.yl2 e.yl3
          up := c0
          rhs := Gen.par_rhs2 e.x0 e.x1 e.x2 e.xl1 e.xl2 e.xl3 e.y0 e.y1 e.y2 e.yl1 e.yl2 e.yl3 } ] := by
  intro h
  first
  | exact absurd h (by decide)
  | rfl
  | (simp only [parabolaRows, Ends.dx0, Ends.dx1, Gen.par_mid0, Gen.par_up0, Gen.par_lo1, Gen.par_mid1, Gen.par_up1,
       Gen.par_lo2, Gen.par_mid2, Gen.par_rhs0, Gen.par_rhs1, Gen.par_rhs2] <;> ft_rows)

/-- forward elimination step of `thomas` -/
theorem FT_spl_thomas_fwd (pm pu pr : F) (r : Row F F) (rest : List (Row F F)) (hp : pm ≠ 0) :
    (thomas_w_available && thomas_mid_available && thomas_rhs_available) = true →
    fwd pm pu pr (r :: rest) =
      ⟨Gen.thomas_mid r.lo r.mid pm pu r.rhs pr, r.up, Gen.thomas_rhs r.lo r.mid pm pu r.rhs pr⟩ ::
        fwd (Gen.thomas_mid r.lo r.mid pm pu r.rhs pr) r.up (Gen.thomas_rhs r.lo r.mid pm pu r.rhs pr) rest ∧
    Gen.thomas_w r.lo r.mid pm pu r.rhs pr = r.lo / pm := by
  intro h
  first
  | exact absurd h (by decide)
  | exact ⟨rfl, rfl⟩
  | (have hm : Gen.thomas_mid r.lo r.mid pm pu r.rhs pr = r.mid - r.lo / pm * pu := by
       simp only [Gen.thomas_mid] <;> ft_alg
     have hr : Gen.thomas_rhs r.lo r.mid pm pu r.rhs pr = r.rhs - r.lo / pm * pr := by
       simp only [Gen.thomas_rhs] <;> ft_alg
     refine ⟨?_, by simp only [Gen.thomas_w] <;> ft_alg⟩
     rw [hm, hr]; rfl)

/-- back substitution of `thomas`: last row and the step -/
theorem FT_spl_thomas_back (e1 e2 : ERow F F) (rest : List (ERow F F)) (h1 : e1.mid ≠ 0) :
    (thomas_last_available && thomas_back_available) = true →
    back [e1] = [Gen.thomas_last e1.mid e1.rhs] ∧
    back (e1 :: e2 :: rest) =
      (match back (e2 :: rest) with
       | [] => []
       | k :: ks => Gen.thomas_back e1.mid e1.up e1.rhs k :: k :: ks) := by
  intro h
  first
  | exact absurd h (by decide)
  | exact ⟨rfl, rfl⟩
  | (have hl : Gen.thomas_last e1.mid e1.rhs = e1.rhs / e1.mid := by simp only [Gen.thomas_last] <;> ft_alg
     have hb : ∀ k, Gen.thomas_back e1.mid e1.up e1.rhs k = (e1.rhs - e1.up * k) / e1.mid := by
       intro k; simp only [Gen.thomas_back] <;> ft_alg
     refine ⟨by rw [hl]; rfl, ?_⟩
     simp only [hb]; rfl)

end

end NdInterp
