/-
Formula tie (Rng): the closed-range tests `is_in_range`, `is_in_x_range`, `is_in_y_range`.
See `FormulaTie/Basic.lean`.
-/
import NdInterp.Props.FormulaTie.Basic

namespace NdInterp

open Gen

section
variable {α : Type} [Cmp α]

/-- `Interp1D::is_in_range`, `Interp2D::is_in_x_range`, `is_in_y_range`: the closed-range test -/
theorem FT_rng_in_range (xs : List α) (q x0 xl : α) (h0 : xs[0]? = some x0) (hl : xs[xs.length - 1]? = some xl) :
    (in_range_1d_available && in_range_2d_x_available && in_range_2d_y_available) = true →
    isInRange xs q = .ok (Gen.in_range_1d x0 xl q) ∧ isInRange xs q = .ok (Gen.in_range_2d_x x0 xl q) ∧
      isInRange xs q = .ok (Gen.in_range_2d_y x0 xl q) := by
  intro h
  first
  | exact absurd h (by decide)
  | (simp only [isInRange, h0, hl, Gen.in_range_1d, Gen.in_range_2d_x, Gen.in_range_2d_y]
     cases Cmp.le x0 q <;> cases Cmp.le q xl <;> simp)

end

end NdInterp
