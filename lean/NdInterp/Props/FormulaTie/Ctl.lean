/-
Control-flow tie (DESIGN.md §9.7): every function of `NdInterp/Gen/Control.lean` — regenerated from `/repo/src` on every run by
`tools/translate_control.py`, statement by statement, with checked reads, checked `usize` subtraction and checked casts — equals
the hand-written model function the property theorems are stated about, for every input and every scalar type (no law of the
comparisons is used).

Every proof is `first | exact absurd h (by decide) | script`: a function the translator could not read is `…_available = false`,
its theorem vacuous (it is then tied by the correspondence runs only); the script is written against the model and not against
today's text of the generated function, so that it survives a restructuring of the source without a change of behaviour (the
order of reads, a hoisted `let`, `&&` as nested `if`s, …) and fails on a changed one — `tools/ctl_selftest.py` tries both kinds.
-/
import NdInterp.Gen.Control
import NdInterp.Model.Interp

namespace NdInterp

open GenCtl

/-- `MonotonicState::{start, update, short_circuit, finish}` (`vector_extensions.rs`): the automaton, all 18 transitions,
    in this and the next three theorems -/
theorem FT_ctl_start : mono_start_available = true → mono_start = MState.init := by
  intro h
  first
  | exact absurd h (by decide)
  | rfl

section
variable {α : Type} [Cmp α]

theorem FT_ctl_update (s : MState) (a b : α) : mono_update_available = true → mono_update s a b = MState.update s a b := by
  intro h
  first
  | exact absurd h (by decide)
  | rfl
  | (unfold mono_update MState.update
     rcases s with _ | _ | (_ | _ | _) <;>
       cases h1 : Cmp.lt a b <;> cases h2 : Cmp.eq a b <;> cases h3 : Cmp.lt b a <;> simp [Cmp.gt, h1, h2, h3])

theorem FT_ctl_short_circuit (s : MState) : mono_short_circuit_available = true → mono_short_circuit s = s.shortCircuit := by
  intro h
  first
  | exact absurd h (by decide)
  | (rcases s with _ | _ | (_ | _ | _) <;> rfl)

theorem FT_ctl_finish (s : MState) : mono_finish_available = true → mono_finish s = s.finish := by
  intro h
  first
  | exact absurd h (by decide)
  | (rcases s with _ | _ | (_ | _ | _) <;> rfl)

theorem tryFoldPairs_eq (f : MState → α → α → Except Monotonic MState)
    (hf : ∀ s a b, f s a b = (MState.update s a b).shortCircuit) (s : MState) (xs : List α) :
    tryFoldPairs s f xs = foldPairs s xs := by
  induction xs generalizing s with
  | nil => rfl
  | cons a t ih =>
    cases t with
    | nil => rfl
    | cons b rest =>
      unfold tryFoldPairs foldPairs
      rw [hf]
      cases (MState.update s a b).shortCircuit with
      | error e => rfl
      | ok s' => exact ih s'

/-- `monotonic_prop`: length guard, `windows(2).try_fold`, `map_or_else` -/
theorem FT_ctl_mono_prop (xs : List α) :
    (mono_prop_available && mono_start_available && mono_update_available && mono_short_circuit_available && mono_finish_available) = true →
    mono_prop xs = monotonicProp xs := by
  intro h
  first
  | exact absurd h (by decide)
  | (simp only [Bool.and_eq_true] at h
     obtain ⟨⟨⟨⟨_, h0⟩, hu⟩, hs⟩, hf⟩ := h
     unfold mono_prop monotonicProp
     rw [FT_ctl_start h0, tryFoldPairs_eq _ fun s a b =>
       (congrArg mono_short_circuit (FT_ctl_update s a b hu)).trans (FT_ctl_short_circuit _ hs)]
     -- the length guard, however it is spelt, evaluates once the list is empty, a singleton or longer
     rcases xs with _ | ⟨a, _ | ⟨b, t⟩⟩
     · rfl
     · rfl
     · cases foldPairs MState.init (a :: b :: t) with
       | error e => rfl
       | ok s => exact FT_ctl_finish s hf)

/-- one turn of the generated loop below its guard, in the shape of `bisect`'s own equation: the checked subtraction cannot fail
    there, and the midpoint is `bisect`'s however the source spells it -/
theorem loop_step (xs : List α) (q : α) {lo hi : Nat} (hlt : lo + 1 < hi) :
    get_lower_index_loop1_available = true →
    get_lower_index_loop1 xs q lo hi =
      match xs[(hi - lo) / 2 + lo]? with
      | none => .error .panic
      | some mx =>
        if Cmp.le mx q then get_lower_index_loop1 xs q ((hi - lo) / 2 + lo) hi
        else get_lower_index_loop1 xs q lo ((hi - lo) / 2 + lo) := by
  intro h
  first
  | exact absurd h (by decide)
  | (have hm : lo ≤ hi ∧ (hi + lo) / 2 = (hi - lo) / 2 + lo := ⟨by omega, by omega⟩
     rw [get_lower_index_loop1]
     simp only [Cmp.ge, Cmp.gt, hlt, Nat.add_comm lo hi, Nat.add_comm lo ((hi - lo) / 2), hm, ↓reduceDIte, ↓reduceIte]
     first
     | rfl
     | (cases xs[(hi - lo) / 2 + lo]? <;> rfl))

/-- the `while range.0 + 1 < range.1` loop of `get_lower_index` -/
theorem FT_ctl_bisect (xs : List α) (q : α) (lo hi : Nat) :
    get_lower_index_loop1_available = true → get_lower_index_loop1 xs q lo hi = bisect xs q lo hi := by
  intro h
  first
  | exact absurd h (by decide)
  | (fun_induction bisect xs q lo hi with
     | case1 lo hi hlt mid hm => rw [loop_step xs q hlt h, hm]
     | case2 lo hi hlt mid mx hm hle ih =>
       rw [loop_step xs q hlt h, hm]
       simp only [hle, ↓reduceIte]
       exact ih
     | case3 lo hi hlt mid mx hm hle ih =>
       rw [loop_step xs q hlt h, hm]
       simp only [hle, ↓reduceIte]
       exact ih
     | case4 lo hi hlt =>
       unfold get_lower_index_loop1
       simp only [hlt, ↓reduceDIte])

end

section
variable {α : Type} [Cmp α] [Add α] [Sub α] [Mul α] [Div α] [NatCast α] [ToUsize α]

/-- `get_lower_index`: range clamps in source order, the O(1) guess through `calc_frac` and `cast`, the `&&` short-circuit of
    the guess check, the range update, the loop -/
theorem FT_ctl_lower_index (xs : List α) (q : α) :
    (get_lower_index_available && get_lower_index_loop1_available) = true → get_lower_index xs q = lowerIndex xs q := by
  intro h
  first
  | exact absurd h (by decide)
  | (simp only [Bool.and_eq_true] at h
     obtain ⟨_, hl⟩ := h
     have hB : @get_lower_index_loop1 α _ = bisect := by
       funext xs q lo hi
       exact FT_ctl_bisect xs q lo hi hl
     unfold get_lower_index lowerIndex lowerIndexWith indexGuess Cmp.ge
     try unfold Cmp.gt
     rw [hB]
     -- every read, cast and comparison is split where the model makes it, after the `match` that binds its argument has been
     -- reduced
     rcases xs with _ | ⟨x0, t⟩
     · rfl
     · dsimp only [List.getElem?_cons_zero]
       cases Cmp.le q x0 with
       | true => rfl
       | false =>
         cases (x0 :: t)[(x0 :: t).length - 1]? with
         | none => rfl
         | some xl =>
           dsimp only
           cases Cmp.le xl q with
           | true => rfl
           | false =>
             cases ToUsize.toUsize? (_ : α) with
             | none => rfl
             | some g =>
               dsimp only
               cases (x0 :: t)[g]? with
               | none => rfl
               | some mx =>
                 dsimp only
                 cases Cmp.le mx q with
                 | false => rfl
                 | true =>
                   cases (x0 :: t)[g + 1]? with
                   | none => rfl
                   | some nx =>
                     dsimp only
                     cases Cmp.lt q nx <;> rfl)

end

/-! `acc1_*` / `acc2_*`: the accessors of `Interp1D` / `Interp2D` -/

section
variable {α : Type} [Cmp α]

theorem FT_ctl_acc1_is_in_range (xs : List α) (x : α) :
    acc1_is_in_range_available = true → acc1_is_in_range xs x = isInRange xs x := by
  intro h
  first
  | exact absurd h (by decide)
  | (unfold acc1_is_in_range isInRange
     try unfold Cmp.ge
     try unfold Cmp.gt
     rcases xs with _ | ⟨x0, t⟩
     · rfl
     · dsimp only [List.getElem?_cons_zero]
       cases Cmp.le x0 x with
       | false => rfl
       | true =>
         cases (x0 :: t)[(x0 :: t).length - 1]? with
         | none => rfl
         | some xl =>
           dsimp only
           cases Cmp.le x xl <;> rfl)

theorem FT_ctl_acc2_is_in_range (xs : List α) (x : α) :
    (acc2_is_in_x_range_available && acc2_is_in_y_range_available) = true →
    acc2_is_in_x_range xs x = isInRange xs x ∧ acc2_is_in_y_range xs x = isInRange xs x := by
  intro h
  first
  | exact absurd h (by decide)
  | (unfold acc2_is_in_x_range acc2_is_in_y_range isInRange
     try unfold Cmp.ge
     try unfold Cmp.gt
     rcases xs with _ | ⟨x0, t⟩
     · exact ⟨rfl, rfl⟩
     · dsimp only [List.getElem?_cons_zero]
       cases Cmp.le x0 x with
       | false => exact ⟨rfl, rfl⟩
       | true =>
         cases (x0 :: t)[(x0 :: t).length - 1]? with
         | none => exact ⟨rfl, rfl⟩
         | some xl =>
           dsimp only
           cases Cmp.le x xl <;> exact ⟨rfl, rfl⟩)

end

section
variable {α V : Type}

theorem FT_ctl_acc1_index_point (xs : List α) (ys : List V) (i : Nat) :
    acc1_index_point_available = true →
    acc1_index_point xs ys i = (match xs[i]?, ys[i]? with
      | some a, some v => .ok (a, v)
      | _, _ => .error .panic) := by
  intro h
  first
  | exact absurd h (by decide)
  | (unfold acc1_index_point
     cases xs[i]? <;> cases ys[i]? <;> rfl)

theorem FT_ctl_acc2_index_point (xs ys : List α) (zs : List (List V)) (i j : Nat) :
    acc2_index_point_available = true →
    acc2_index_point xs ys zs i j = (match xs[i]?, ys[j]?, zs[i]? with
      | some a, some b, some r => (match r[j]? with
        | some v => .ok (a, b, v)
        | none => .error .panic)
      | _, _, _ => .error .panic) := by
  intro h
  first
  | exact absurd h (by decide)
  | (unfold acc2_index_point
     cases xs[i]? <;> try rfl
     all_goals cases ys[j]? <;> try rfl
     all_goals cases zs[i]? <;> try rfl
     rename_i r
     dsimp only
     cases r[j]? <;> rfl)

end

section
variable {α V : Type} [Cmp α] [Add α] [Sub α] [Mul α] [Div α] [NatCast α] [ToUsize α] [Lanes α V]

theorem FT_ctl_acc1_get_index_left_of (xs : List α) (x : α) :
    (acc1_get_index_left_of_available && get_lower_index_available && get_lower_index_loop1_available) = true →
    acc1_get_index_left_of xs x = lowerIndex xs x := by
  intro h
  first
  | exact absurd h (by decide)
  | (simp only [Bool.and_eq_true] at h
     unfold acc1_get_index_left_of
     rw [FT_ctl_lower_index xs x (by simp only [Bool.and_eq_true]; exact ⟨h.1.2, h.2⟩)]
     cases lowerIndex xs x <;> rfl)

theorem FT_ctl_acc2_get_index_left_of (xs ys : List α) (x y : α) :
    (acc2_get_index_left_of_available && get_lower_index_available && get_lower_index_loop1_available) = true →
    acc2_get_index_left_of xs ys x y = (match lowerIndex xs x with
      | .error e => .error e
      | .ok i => match lowerIndex ys y with
        | .error e => .error e
        | .ok j => .ok (i, j)) := by
  intro h
  first
  | exact absurd h (by decide)
  | (simp only [Bool.and_eq_true] at h
     have hl : (get_lower_index_available && get_lower_index_loop1_available) = true := by
       simp only [Bool.and_eq_true]; exact ⟨h.1.2, h.2⟩
     unfold acc2_get_index_left_of
     rw [FT_ctl_lower_index xs x hl, FT_ctl_lower_index ys y hl]
     cases lowerIndex xs x with
     | error e => rfl
     | ok i =>
       dsimp only
       cases lowerIndex ys y <;> rfl)

/-- `Linear::interp_into`: range gate, index lookup, the two `index_point` reads, the `Zip` with `calc_frac` -/
theorem FT_ctl_linear (ext : Bool) (xs : List α) (ys : List V) (x : α) :
    (linear_interp_into_available && acc1_is_in_range_available && acc1_get_index_left_of_available && acc1_index_point_available &&
      get_lower_index_available && get_lower_index_loop1_available) = true →
    linear_interp_into ext xs ys x = linearInterp ext xs ys x := by
  intro h
  first
  | exact absurd h (by decide)
  | (simp only [Bool.and_eq_true] at h
     obtain ⟨⟨⟨⟨⟨_, hr⟩, hg⟩, _⟩, hl1⟩, hl2⟩ := h
     have hG := FT_ctl_acc1_get_index_left_of xs x (by simp only [Bool.and_eq_true]; exact ⟨⟨hg, hl1⟩, hl2⟩)
     -- an extrapolating strategy has no gate: what is left is the lookup and the four reads, each a panic on either side
     -- when absent, in whatever order the two sides make them
     have T : linear_interp_into true xs ys x = linearInterp true xs ys x := by
       unfold linearInterp rangeGate rd linear_interp_into acc1_index_point
       dsimp only [↓dreduceIte, bind, Except.bind, pure, Except.pure]
       rw [hG]
       cases lowerIndex xs x with
       | error e => rfl
       | ok idx =>
         dsimp only
         cases xs[idx]? <;> cases ys[idx]? <;> try rfl
         all_goals cases xs[idx + 1]? <;> cases ys[idx + 1]? <;> rfl
     cases ext
     · unfold linear_interp_into linearInterp rangeGate
       rw [FT_ctl_acc1_is_in_range _ _ hr]
       cases isInRange xs x with
       | error e => rfl
       | ok b =>
         cases b
         · rfl
         · exact T
     · exact T)

/-- `Bilinear::interp_into`: x gate before y gate, the cell lookup, the four `index_point` reads with their index pairs, the
    `Zip` with the three `calc_frac` calls -/
theorem FT_ctl_bilinear (ext : Bool) (xs ys : List α) (zs : List (List V)) (x y : α) :
    (bilinear_interp_into_available && acc2_is_in_x_range_available && acc2_is_in_y_range_available &&
      acc2_get_index_left_of_available && acc2_index_point_available &&
      get_lower_index_available && get_lower_index_loop1_available) = true →
    bilinear_interp_into ext xs ys zs x y = bilinearInterp ext xs ys zs x y := by
  intro h
  first
  | exact absurd h (by decide)
  | (simp only [Bool.and_eq_true] at h
     obtain ⟨⟨⟨⟨⟨⟨_, hrx⟩, hry⟩, hg⟩, _⟩, hl1⟩, hl2⟩ := h
     have hR := fun (l : List α) q => FT_ctl_acc2_is_in_range l q (by simp only [Bool.and_eq_true]; exact ⟨hrx, hry⟩)
     have hG := FT_ctl_acc2_get_index_left_of xs ys x y (by simp only [Bool.and_eq_true]; exact ⟨⟨hg, hl1⟩, hl2⟩)
     -- without the gates: the cell lookup and the ten reads of the four `index_point` calls, which source and model make in
     -- different orders; an absent one is a panic either way, so they are split one after the other (a row before its
     -- elements, which only the reduced `match` shows) until both sides have met an absent read
     have T : bilinear_interp_into true xs ys zs x y = bilinearInterp true xs ys zs x y := by
       unfold bilinearInterp rangeGate rd bilinear_interp_into acc2_index_point
       dsimp only [↓dreduceIte, bind, Except.bind, pure, Except.pure]
       rw [hG]
       cases lowerIndex xs x <;> cases lowerIndex ys y <;> try rfl
       rename_i xi yi
       dsimp only
       cases xs[xi]? <;> try rfl
       cases ys[yi]? <;> try rfl
       cases zs[xi]? with
       | none => rfl
       | some r1 =>
         dsimp only
         cases r1[yi]? <;> try rfl
         cases zs[xi + 1]? with
         | none =>
           cases ys[yi + 1]? <;> try rfl
           all_goals cases r1[yi + 1]? <;> try rfl
           all_goals cases xs[xi + 1]? <;> rfl
         | some r2 =>
           dsimp only
           cases ys[yi + 1]? <;> try rfl
           all_goals cases r1[yi + 1]? <;> try rfl
           all_goals cases xs[xi + 1]? <;> try rfl
           all_goals cases r2[yi]? <;> try rfl
           all_goals cases r2[yi + 1]? <;> rfl
     cases ext
     · unfold bilinear_interp_into bilinearInterp rangeGate
       rw [(hR xs x).1, (hR ys y).2]
       cases isInRange xs x with
       | error e => rfl
       | ok b =>
         cases b
         · rfl
         · cases isInRange ys y with
           | error e => rfl
           | ok b2 =>
             cases b2
             · rfl
             · exact T
     · exact T)

end

section
variable {α V : Type} [Cmp α] [Add α] [Sub α] [Mul α] [Div α] [Neg α] [NatCast α] [ToUsize α] [RemEuclid α] [Lanes α V]

/-- a proof may speak of a function it cannot write down: `G` is left open and found by unification where `main` first uses its
    hypothesis -/
theorem of_tail {β γ : Type} {P : Prop} {K : β → γ} (G : β → γ) (main : (∀ q, G q = K q) → P) (tail : ∀ q, G q = K q) : P :=
  main tail

/-- `CubicSplineStrategy::interp_into`: the range test first, rejection only in mode `No`, the periodic wrap only in mode
    `Periodic` outside the range, the lookup at the wrapped point, the two `index_point` reads, the `a` / `b` rows, the local
    coordinate and the `Zip` with the Hermite form -/
theorem FT_ctl_spline (s : SplineStrat V) (xs : List α) (ys : List V) (x : α) :
    (spline_interp_into_available && acc1_is_in_range_available && acc1_get_index_left_of_available && acc1_index_point_available &&
      get_lower_index_available && get_lower_index_loop1_available) = true →
    spline_interp_into s xs ys x = splineInterp s xs ys x := by
  intro h
  first
  | exact absurd h (by decide)
  | (simp only [Bool.and_eq_true] at h
     obtain ⟨⟨⟨⟨⟨_, hr⟩, hg⟩, _⟩, hl1⟩, hl2⟩ := h
     have hG : ∀ q, acc1_get_index_left_of xs q = lowerIndex xs q := fun q =>
       FT_ctl_acc1_get_index_left_of xs q (by simp only [Bool.and_eq_true]; exact ⟨⟨hg, hl1⟩, hl2⟩)
     -- the translated function repeats the evaluation behind every way through the gate and the wrap, at `x` or at the wrapped
     -- point.  `H`: that evaluation at `q` is `splineEvalAt` (the generated side is whatever the first use of `H` shows it to
     -- be; the query is reverted so that it can be the argument); proved once, below
     revert x
     apply of_tail (K := splineEvalAt s xs ys)
     · intro H x
       unfold spline_interp_into splineInterp splineWrap rd
       rw [FT_ctl_acc1_is_in_range _ _ hr]
       cases isInRange xs x with
       | error e => rfl
       | ok b =>
         cases s.extrapolate <;> cases b
         · exact H x
         · exact H x
         · rfl
         · exact H x
         · rcases xs with _ | ⟨x0, t⟩
           · rfl
           · cases (x0 :: t)[(x0 :: t).length - 1]? with
             | none => rfl
             | some xn => exact H _
         · exact H x
     · intro q
       simp +decide only [↓reduceIte]
       unfold acc1_index_point splineEvalAt rd
       dsimp only [bind, Except.bind, pure, Except.pure]
       rw [hG]
       cases lowerIndex xs q with
       | error e => rfl
       | ok idx =>
         dsimp only
         cases xs[idx]? <;> cases ys[idx]? <;> try rfl
         all_goals cases xs[idx + 1]? <;> cases ys[idx + 1]? <;> try rfl
         all_goals cases s.a[idx]? <;> cases s.b[idx]? <;> rfl)

end

section
variable {α : Type} [Cmp α] [Add α] [Sub α] [Mul α] [Div α] [Neg α] [NatCast α] [ToUsize α] [RemEuclid α]

omit [Cmp α] [Add α] [Sub α] [Mul α] [Div α] [Neg α] [ToUsize α] [RemEuclid α] in
/-- the axes `Interp1DBuilder::new` / `Interp2DBuilder::new` install -/
theorem FT_ctl_default_axes (shape : List Nat) :
    (builder1_default_x_available && builder2_default_x_available && builder2_default_y_available) = true →
    builder1_default_x (α := α) shape = defaultAxis (shape.headD 0) ∧
    builder2_default_x (α := α) shape = defaultAxis (shape.headD 0) ∧
    builder2_default_y (α := α) shape = defaultAxis ((shape.drop 1).headD 0) := by
  intro h
  first
  | exact absurd h (by decide)
  | (rcases shape with _ | ⟨a, _ | ⟨b, r⟩⟩ <;> exact ⟨rfl, rfl, rfl⟩)

/-- `Interp1DBuilder::build`, every statement up to the call of the strategy's own `build` -/
theorem FT_ctl_builder1 (minLen : Nat) (x : Option (List α)) (data : NdArr α) :
    (builder1_validate_available && builder1_default_x_available && builder2_default_x_available && builder2_default_y_available &&
      mono_prop_available && mono_start_available && mono_update_available && mono_short_circuit_available && mono_finish_available) = true →
    validate1 minLen x data = builder1_validate minLen (x.getD (builder1_default_x data.shape)) data.shape := by
  intro h
  first
  | exact absurd h (by decide)
  | (simp only [Bool.and_eq_true] at h
     obtain ⟨⟨⟨⟨⟨⟨⟨⟨_, hd1⟩, hd2⟩, hd3⟩, hm⟩, h0⟩, hu⟩, hs⟩, hf⟩ := h
     have hM : @mono_prop α _ = monotonicProp := funext fun l =>
       FT_ctl_mono_prop l (by simp only [Bool.and_eq_true]; exact ⟨⟨⟨⟨hm, h0⟩, hu⟩, hs⟩, hf⟩)
     have hD := (FT_ctl_default_axes (α := α) data.shape (by simp only [Bool.and_eq_true]; exact ⟨⟨hd1, hd2⟩, hd3⟩)).1
     unfold validate1 builder1_validate
     rw [hM, hD]
     rcases data.shape with _ | ⟨d, rest⟩
     · rfl
     · dsimp only [List.getElem?_cons_zero, List.headD_cons]
       cases Nat.decLt d minLen with
       | isTrue _ => rfl
       | isFalse _ =>
         cases monotonicProp (x.getD (defaultAxis d)) with
         | error e => rfl
         | ok m =>
           rcases m with (_ | _) | _ | _ <;> try rfl
           all_goals
             (by_cases hl : (x.getD (defaultAxis d)).length = d
              · simp [*] <;> rfl
              · have hl' : ¬ (d = (x.getD (defaultAxis d)).length) := fun h => hl h.symm
                simp [*] <;> rfl))

/-- `Interp2DBuilder::build`, likewise -/
theorem FT_ctl_builder2 (minLen : Nat) (x y : Option (List α)) (data : NdArr α) :
    (builder2_validate_available && builder1_default_x_available && builder2_default_x_available && builder2_default_y_available &&
      mono_prop_available && mono_start_available && mono_update_available && mono_short_circuit_available && mono_finish_available) = true →
    validate2 minLen x y data =
      builder2_validate minLen (x.getD (builder2_default_x data.shape)) (y.getD (builder2_default_y data.shape)) data.shape := by
  intro h
  first
  | exact absurd h (by decide)
  | (simp only [Bool.and_eq_true] at h
     obtain ⟨⟨⟨⟨⟨⟨⟨⟨_, hd1⟩, hd2⟩, hd3⟩, hm⟩, h0⟩, hu⟩, hs⟩, hf⟩ := h
     have hM : @mono_prop α _ = monotonicProp := funext fun l =>
       FT_ctl_mono_prop l (by simp only [Bool.and_eq_true]; exact ⟨⟨⟨⟨hm, h0⟩, hu⟩, hs⟩, hf⟩)
     have hD := FT_ctl_default_axes (α := α) data.shape (by simp only [Bool.and_eq_true]; exact ⟨⟨hd1, hd2⟩, hd3⟩)
     unfold validate2 builder2_validate
     rw [hM, hD.2.1, hD.2.2]
     rcases data.shape with _ | ⟨d, _ | ⟨d2, rest⟩⟩
     · rfl
     · rfl
     · -- the model's `do` block becomes the chain of tests it stands for (each `throw` ends it)
       simp only [bind, Except.bind, pure, Except.pure, throw, throwThe, MonadExceptOf.throw, List.getElem?_cons_zero,
         List.getElem?_cons_succ, List.headD_cons, List.drop_succ_cons, List.drop_zero]
       cases Nat.decLt d minLen with
       | isTrue _ => rfl
       | isFalse _ =>
         cases Nat.decLt d2 minLen with
         | isTrue _ => rfl
         | isFalse _ =>
           cases instDecidableEqNat (x.getD (defaultAxis d)).length d with
           | isFalse _ => rfl
           | isTrue _ =>
             cases instDecidableEqNat (y.getD (defaultAxis d2)).length d2 with
             | isFalse _ => rfl
             | isTrue _ =>
               cases monotonicProp (x.getD (defaultAxis d)) with
               | error e => rfl
               | ok m =>
                 rcases m with (_ | _) | _ | _ <;> try rfl
                 all_goals cases monotonicProp (y.getD (defaultAxis d2)) with
                 | error e => rfl
                 | ok m2 => rcases m2 with (_ | _) | _ | _ <;> rfl)

end

end NdInterp
