/-
Formula tie (SplEval): the coefficients of `calc_coefficients` and the Hermite evaluation of `CubicSplineStrategy::interp_into`.
See `FormulaTie/Basic.lean`.
-/
import NdInterp.Props.FormulaTie.Basic

namespace NdInterp

open Gen

section
variable {F : Type} [Field F]

/-- the coefficient rows `c_a`, `c_b` of `calc_coefficients` -/
theorem FT_spl_coeffs (x0 x1 : F) (xs : List F) (y0 y1 : F) (ys : List F) (k0 k1 : F) (ks : List F) :
    (coef_a_available && coef_b_available) = true →
    coeffs (V := F) (x0 :: x1 :: xs) (y0 :: y1 :: ys) (k0 :: k1 :: ks) =
      (Gen.coef_a x0 x1 k0 k1 y0 y1, Gen.coef_b x0 x1 k0 k1 y0 y1) :: coeffs (x1 :: xs) (y1 :: ys) (k1 :: ks) := by
  intro h
  first
  | exact absurd h (by decide)
  | rfl
  | (simp only [coeffs, Gen.coef_a, Gen.coef_b] <;> ft_rows)

/-- the Hermite form evaluated by `CubicSplineStrategy::interp_into` (with `t`) -/
theorem FT_spl_eval (x xL xR yL yR aL bL : F) (hd : xR - xL ≠ 0) :
    (spline_t_available && spline_eval_available) = true →
    (let t := (x - xL) / (xR - xL)
     Lanes.map4 (V := F) (fun yLeft yRight aLeft bLeft =>
       (c1 - t) * yLeft + t * yRight + t * (c1 - t) * (aLeft * (c1 - t) + bLeft * t)) yL yR aL bL)
      = Gen.spline_eval x xL xR yL yR aL bL ∧
    Gen.spline_t x xL xR yL yR aL bL = (x - xL) / (xR - xL) := by
  intro h
  first
  | exact absurd h (by decide)
  | exact ⟨rfl, rfl⟩
  | (refine ⟨?_, by simp only [Gen.spline_t] <;> ft_alg⟩
     simp only [map4_scalar, Gen.spline_eval] <;> ft_alg)

end

end NdInterp
