/-
Formula tie (PerSys): the periodic branches of `solve_for_k`.
See `FormulaTie/Basic.lean`.
-/
import NdInterp.Props.FormulaTie.Basic

namespace NdInterp

open Gen

section
variable {F : Type} [Field F]

/-- Periodic, 3 points: the common slope -/
theorem FT_per_three (e : Ends F F) (h0 : e.x1 - e.x0 ≠ 0) (h1 : e.x2 - e.x1 ≠ 0) (hd : e.x2 - e.x0 ≠ 0) :
    per3_k_available = true →
    periodic3 e =
      [Gen.per3_k e.x0 e.x1 e.x2 e.xl1 e.xl2 e.xl3 e.y0 e.y1 e.y2 e.yl1 e.yl2 e.yl3,
       Gen.per3_k e.x0 e.x1 e.x2 e.xl1 e.xl2 e.xl3 e.y0 e.y1 e.y2 e.yl1 e.yl2 e.yl3,
       Gen.per3_k e.x0 e.x1 e.x2 e.xl1 e.xl2 e.xl3 e.y0 e.y1 e.y2 e.yl1 e.yl2 e.yl3] := by
  intro h
  first
  | exact absurd h (by decide)
  | rfl
  | (have hd' : e.x1 - e.x0 + (e.x2 - e.x1) ≠ 0 := by rwa [sub_add_sub_cancel']
     have hd'' : e.x2 - e.x1 + (e.x1 - e.x0) ≠ 0 := by rwa [sub_add_sub_cancel]
     have hs' : (1 : F) / (e.x1 - e.x0) + 1 / (e.x2 - e.x1) ≠ 0 := by
       rw [div_add_div _ _ h0 h1]; exact div_ne_zero (by simpa [add_comm] using hd'') (mul_ne_zero h0 h1)
     simp only [periodic3, Ends.dx0, Ends.dx1, Gen.per3_k] <;> ft_rows)

/-- Periodic, n ≥ 4: row 0 of the condensed system, the last right-hand side, the two entries of `rhs2` -/
theorem FT_per_rows (e : Ends F F) (xl4 : F) (h0 : e.x1 - e.x0 ≠ 0) (h1 : e.xl1 - e.xl2 ≠ 0) (h2 : e.xl2 - e.xl3 ≠ 0) :
    (perN_mid0_available && perN_up0_available && perN_rhs0_available && perN_rhsLast_available &&
      perN_rhs2_first_available && perN_rhs2_last_available) = true →
    periodicRow0 e =
      { lo := c0
        mid := Gen.perN_mid0 e.x0 e.x1 e.x2 e.xl1 e.xl2 e.xl3 e.y0 e.y1 e.y2 e.yl1 e.yl2 e.yl3 xl4
        up := Gen.perN_up0 e.x0 e.x1 e.x2 e.xl1 e.xl2 e.xl3 e.y0 e.y1 e.y2 e.yl1 e.yl2 e.yl3 xl4
        rhs := Gen.perN_rhs0 e.x0 e.x1 e.x2 e.xl1 e.xl2 e.xl3 e.y0 e.y1 e.y2 e.yl1 e.yl2 e.yl3 xl4 } ∧
    periodicRhsLast e = Gen.perN_rhsLast e.x0 e.x1 e.x2 e.xl1 e.xl2 e.xl3 e.y0 e.y1 e.y2 e.yl1 e.yl2 e.yl3 xl4 ∧
    -e.dx0 = Gen.perN_rhs2_first e.x0 e.x1 e.x2 e.xl1 e.xl2 e.xl3 e.y0 e.y1 e.y2 e.yl1 e.yl2 e.yl3 xl4 ∧
    -(e.xl3 - xl4) = Gen.perN_rhs2_last e.x0 e.x1 e.x2 e.xl1 e.xl2 e.xl3 e.y0 e.y1 e.y2 e.yl1 e.yl2 e.yl3 xl4 := by
  intro h
  first
  | exact absurd h (by decide)
  | exact ⟨rfl, rfl, rfl, rfl⟩
  | (simp only [periodicRow0, periodicRhsLast, Ends.dx0, Ends.dxl1, Ends.dxl2, Gen.perN_mid0, Gen.perN_up0, Gen.perN_rhs0,
       Gen.perN_rhsLast, Gen.perN_rhs2_first, Gen.perN_rhs2_last]
     refine ⟨?_, ?_, ?_, ?_⟩ <;> ft_rows)

/-- Periodic, n ≥ 4: `k_m1` and the combination `k1 + k_m1 * k2` -/
theorem FT_per_combine (dx_1 dx_2 rhsLast k10 k1l k20 k2l k1 k2 : F)
    (hden : k20 * dx_2 + k2l * dx_1 + c2 * (dx_1 + dx_2) ≠ 0) :
    (perN_km1_available && perN_head_available) = true →
    Lanes.map2 (V := F) (fun a b => a / b)
        (Lanes.map2 (fun a b => a - b) (Lanes.map2 (fun a b => a - b) rhsLast (Lanes.map1 (fun v => v * dx_2) k10))
          (Lanes.map1 (fun v => v * dx_1) k1l))
        (Lanes.map1 (fun v => v + c2 * (dx_1 + dx_2))
          (Lanes.map2 (fun a b => a + b) (Lanes.map1 (fun v => v * dx_2) k20) (Lanes.map1 (fun v => v * dx_1) k2l)))
      = Gen.perN_km1 dx_1 dx_2 rhsLast k10 k1l k20 k2l ∧
    ∀ km : F, Lanes.map2 (V := F) (fun a b => a + b) k1 (Lanes.map2 (fun km k2 => km * k2) km k2) = Gen.perN_head k1 k2 km := by
  intro h
  first
  | exact absurd h (by decide)
  | exact ⟨rfl, fun _ => rfl⟩
  | (have hden' : k20 * dx_2 + k2l * dx_1 + 2 * (dx_1 + dx_2) ≠ 0 := by simpa using hden
     refine ⟨?_, fun km => ?_⟩
     · simp only [map1_scalar, map2_scalar, Gen.perN_km1] <;> ft_alg
     · simp only [map1_scalar, map2_scalar, Gen.perN_head] <;> ft_alg)

end

end NdInterp
