/-
Formula tie (Bil): the blend of `Bilinear::interp_into`.
See `FormulaTie/Basic.lean`.
-/
import NdInterp.Props.FormulaTie.Basic

namespace NdInterp

open Gen

section
variable {F : Type} [Field F]

/-- the three nested `calc_frac` calls of `Bilinear::interp_into` (argument order included) -/
theorem FT_bil_blend (x1 x2 y1 y2 z11 z12 z21 z22 x y : F) (hx : x2 - x1 ≠ 0) (hy : y2 - y1 ≠ 0) :
    (calc_frac_available && bilinear_available) = true →
    Lanes.map4 (V := F) (fun z11 z12 z21 z22 =>
      let z1 := calcFrac x1 z11 x2 z21 x
      let z2 := calcFrac x1 z12 x2 z22 x
      calcFrac y1 z1 y2 z2 y) z11 z12 z21 z22 = Gen.bilinear x1 x2 y1 y2 z11 z12 z21 z22 x y := by
  intro h
  first
  | exact absurd h (by decide)
  | rfl
  | (simp only [map4_scalar, Gen.bilinear, Gen.calc_frac, calcFrac] <;> ft_alg)

end

end NdInterp
