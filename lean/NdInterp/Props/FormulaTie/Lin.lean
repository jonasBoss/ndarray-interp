/-
Formula tie (Lin): `Linear::calc_frac`, the row `Linear::interp_into` writes, the index guess of `get_lower_index`.
See `FormulaTie/Basic.lean`.
-/
import NdInterp.Props.FormulaTie.Basic

namespace NdInterp

open Gen

section
variable {F : Type} [Field F]

/-- `Linear::calc_frac` -/
theorem FT_lin_calc_frac (x1 y1 x2 y2 x : F) (hd : x2 - x1 ≠ 0) :
    calc_frac_available = true → Gen.calc_frac x1 y1 x2 y2 x = calcFrac x1 y1 x2 y2 x := by
  intro h
  first
  | exact absurd h (by decide)
  | rfl
  | (simp only [Gen.calc_frac, calcFrac] <;> ft_alg)

/-- the row `Linear::interp_into` writes: `calc_frac` lane by lane (single lane) -/
theorem FT_lin_row (x1 x2 q y1 y2 : F) (hd : x2 - x1 ≠ 0) :
    calc_frac_available = true →
    Lanes.map2 (V := F) (fun y1 y2 => calcFrac x1 y1 x2 y2 q) y1 y2 = Gen.calc_frac x1 y1 x2 y2 q := by
  intro h
  first
  | exact absurd h (by decide)
  | rfl
  | (rw [FT_lin_calc_frac x1 y1 x2 y2 q hd h]; rfl)

/-- the O(1) index guess of `get_lower_index`: `calc_frac((x[0], 0), (x[n-1], n-1), q)` before the cast -/
theorem FT_idx_guess [ToUsize F] (xs : List F) (q x0 xl : F) (h0 : xs[0]? = some x0)
    (hl : xs[xs.length - 1]? = some xl) (hd : xl - x0 ≠ 0) :
    (calc_frac_available && index_guess_available) = true →
    indexGuess xs q = ToUsize.toUsize? (Gen.index_guess x0 xl (xs.length - 1) q) := by
  intro h
  first
  | exact absurd h (by decide)
  | (simp only [indexGuess, h0, hl]; rfl)
  | (simp only [indexGuess, h0, hl, Gen.index_guess, Gen.calc_frac, calcFrac, castNat]; congr 1; ft_alg)

end

end NdInterp
