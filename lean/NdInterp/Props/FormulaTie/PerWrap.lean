/-
Formula tie (PerWrap): the periodic wrap of an out-of-range query.
See `FormulaTie/Basic.lean`.
-/
import NdInterp.Props.FormulaTie.Basic

namespace NdInterp

open Gen

section
variable {F : Type} [Field F]

/-- `((x - x0).rem_euclid(&(xn - x0))) + x0` in `CubicSplineStrategy::interp_into` -/
theorem FT_per_wrap [RemEuclid F] (xs : List F) (q x0 xn : F) (h0 : xs[0]? = some x0)
    (hl : xs[xs.length - 1]? = some xn) :
    wrap_available = true →
    splineWrap Extrapolate.periodic false xs q = .ok (Gen.wrap q x0 xn) := by
  intro h
  first
  | exact absurd h (by decide)
  | (simp only [splineWrap, rd, h0, hl]; rfl)
  | (simp [splineWrap, rd, h0, hl, Gen.wrap])

end

end NdInterp
