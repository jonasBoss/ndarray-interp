/-
C16 — polynomials of the strategy's degree are reproduced exactly (everywhere, not only at knots).

The spline part: the true slopes satisfy C² and the end conditions, so by `C03_unique` they are what the solver
returns; the Hermite cubic of a cubic is that cubic (`hermite_exact`).
-/
import NdInterp.Lemmas.LinearCore
import NdInterp.Props.C03

namespace NdInterp

/-- the three nested `calc_frac` reproduce `a + b·x + c·y + d·x·y`: a straight line along `x` on
    both grid lines, then a straight line along `y` between them -/
theorem calcFrac_bilinear {F : Type} [Field F] (a b c d x1 x2 y1 y2 x y : F) (hx : x1 ≠ x2) (hy : y1 ≠ y2) :
    calcFrac y1 (calcFrac x1 (a + b * x1 + c * y1 + d * x1 * y1) x2 (a + b * x2 + c * y1 + d * x2 * y1) x)
      y2 (calcFrac x1 (a + b * x1 + c * y2 + d * x1 * y2) x2 (a + b * x2 + c * y2 + d * x2 * y2) x) y =
      a + b * x + c * y + d * x * y := by
  have line : ∀ k, calcFrac x1 (a + b * x1 + c * k + d * x1 * k) x2 (a + b * x2 + c * k + d * x2 * k) x =
      (a + b * x) + (c + d * x) * k := by
    intro k
    rw [show a + b * x1 + c * k + d * x1 * k = (a + c * k) + (b + d * k) * x1 by ring,
      show a + b * x2 + c * k + d * x2 * k = (a + c * k) + (b + d * k) * x2 by ring,
      calcFrac_affine _ _ _ _ _ hx]
    ring
  rw [line, line, calcFrac_affine _ _ _ _ _ hy]
  ring

section
variable {F : Type} [Field F] [LinearOrder F] [IsStrictOrderedRing F] [Cmp F] [LawfulCmp F]
  [ToUsize F] [LawfulToUsize F]

/-- Data sampled from `a + b·x` are reproduced by Linear at every query, in range and extrapolated. -/
theorem C16_linear (ext : Bool) (xs ys : List F) (a b q : F)
    (hs : StrictInc xs) (hl : ys.length = xs.length) (hlen : xs.length < 2 ^ 64)
    (hdata : ∀ i (h : i < xs.length), ys[i]'(by omega) = a + b * xs[i])
    (hok : ext = true ∨ InRange xs q) :
    linearInterp (V := F) ext xs ys q = .ok (a + b * q) := by
  obtain ⟨i, hb⟩ := exists_bracket xs q hs hlen
  have hlt := hb.lt_len
  rw [linearInterp_of_bracket ext ys hs hl hlen hb, if_pos hok]
  simp only [linePiece, map2_scalar, hdata i (by omega), hdata (i + 1) hlt,
    calcFrac_affine _ _ _ _ _ (hs.lt_succ hlt).ne]

/-- Data sampled from `a + b·x + c·y + d·x·y` are reproduced by Bilinear at every query. -/
theorem C16_bilinear (ext : Bool) (xs ys : List F) (zs : List (List F)) (a b c d x y : F)
    (hsx : StrictInc xs) (hsy : StrictInc ys) (hg : GridOK zs xs.length ys.length)
    (hlx : xs.length < 2 ^ 64) (hly : ys.length < 2 ^ 64)
    (hdata : ∀ i j (r : List F) (z : F) (hi : i < xs.length) (hj : j < ys.length),
      zs[i]? = some r → r[j]? = some z → z = a + b * xs[i] + c * ys[j] + d * xs[i] * ys[j])
    (hok : (ext = true ∨ InRange xs x) ∧ (ext = true ∨ InRange ys y)) :
    bilinearInterp (V := F) ext xs ys zs x y = .ok (a + b * x + c * y + d * x * y) := by
  obtain ⟨i, hi⟩ := exists_bracket xs x hsx hlx
  obtain ⟨j, hj⟩ := exists_bracket ys y hsy hly
  have hil := hi.lt_len
  have hjl := hj.lt_len
  obtain ⟨r1, r2, z11, z12, z21, z22, e1, e2, e3, e4, e5, e6⟩ := hg.cell hil hjl
  rw [bilinearInterp_of_cell ext hsx hsy hlx hly hi hj e1 e2 e3 e4 e5 e6, if_pos hok.1, if_pos hok.2]
  rw [hdata i j r1 z11 (by omega) (by omega) e1 e3, hdata i (j + 1) r1 z12 (by omega) hjl e1 e4,
    hdata (i + 1) j r2 z21 hil (by omega) e2 e5, hdata (i + 1) (j + 1) r2 z22 hil hjl e2 e6]
  exact congrArg _ (calcFrac_bilinear _ _ _ _ _ _ _ _ _ _ (hsx.lt_succ hil).ne (hsy.lt_succ hjl).ne)

end

section spline
variable {F : Type} [Field F]

def cubicP (a0 a1 a2 a3 x : F) : F := a0 + a1 * x + a2 * x ^ 2 + a3 * x ^ 3
def cubicP' (a1 a2 a3 x : F) : F := a1 + 2 * a2 * x + 3 * a3 * x ^ 2
def cubicP'' (a2 a3 x : F) : F := 2 * a2 + 6 * a3 * x

/-- the Hermite piece of a cubic on `[xl, xr]` is its Taylor expansion at `xl` -/
theorem pieceCubic_cubicP (a0 a1 a2 a3 xl xr : F) (h : xr - xl ≠ 0) :
    pieceCubic xl xr (cubicP a0 a1 a2 a3 xl) (cubicP a0 a1 a2 a3 xr)
      (cubicP' a1 a2 a3 xl) (cubicP' a1 a2 a3 xr) =
      ⟨xl, cubicP a0 a1 a2 a3 xl, cubicP' a1 a2 a3 xl, a2 + 3 * a3 * xl, a3⟩ := by
  have hd : (cubicP a0 a1 a2 a3 xr - cubicP a0 a1 a2 a3 xl) / (xr - xl) =
      a1 + a2 * (xr + xl) + a3 * (xr ^ 2 + xr * xl + xl ^ 2) := by
    rw [div_eq_iff h]; simp only [cubicP]; ring
  simp only [pieceCubic, hd, Cubic.mk.injEq, true_and]
  constructor
  · rw [div_eq_iff h]; simp only [cubicP']; ring
  · rw [div_eq_iff (pow_ne_zero 2 h)]; simp only [cubicP']; ring

theorem hermite_exact (a0 a1 a2 a3 xl xr : F) (h : xr - xl ≠ 0) :
    let P := pieceCubic xl xr (cubicP a0 a1 a2 a3 xl) (cubicP a0 a1 a2 a3 xr)
      (cubicP' a1 a2 a3 xl) (cubicP' a1 a2 a3 xr)
    (∀ q, P.eval q = cubicP a0 a1 a2 a3 q) ∧ (∀ q, P.d1 q = cubicP' a1 a2 a3 q) ∧
    (∀ q, P.d2 q = cubicP'' a2 a3 q) ∧ P.d3 = 6 * a3 := by
  intro P
  rw [show P = _ from pieceCubic_cubicP a0 a1 a2 a3 xl xr h]
  simp only [Cubic.eval, Cubic.d1, Cubic.d2, Cubic.d3, cubicP, cubicP', cubicP'']
  refine ⟨fun q => ?_, fun q => ?_, fun q => ?_, trivial⟩ <;> ring

/-- an end condition evaluated on the cubic itself; whatever the name, for either end (`hleft`, `hright` below) -/
def PolyLeft (a1 a2 a3 x0 : F) (b : SingleBoundary F) : Prop :=
  match b.specialize with
  | .firstDeriv v => cubicP' a1 a2 a3 x0 = v
  | .secondDeriv v => cubicP'' a2 a3 x0 = v
  | .notAKnot => True
  | _ => False

/-- an end condition the cubic itself satisfies holds of a piece that has the cubic's derivatives there; `N`
    is the NotAKnot clause of `LeftCond` / `RightCond` -/
theorem PolyLeft.cond {a1 a2 a3 x : F} {b : SingleBoundary F} (h : PolyLeft a1 a2 a3 x b) {P : Cubic F}
    (h1 : P.d1 x = cubicP' a1 a2 a3 x) (h2 : P.d2 x = cubicP'' a2 a3 x) {N : Prop} (hN : N) :
    match b.specialize with
    | .firstDeriv v => P.d1 x = v
    | .secondDeriv v => P.d2 x = v
    | .notAKnot => N
    | _ => False := by
  unfold PolyLeft at h
  rcases b.specialize_cases with rfl | ⟨v, hv⟩ | ⟨v, hv⟩
  · exact hN
  · rw [hv] at h ⊢
    exact h1.trans h
  · rw [hv] at h ⊢
    exact h2.trans h

variable [LinearOrder F] [IsStrictOrderedRing F] [Cmp F]

/-- If the data are samples of a cubic `p` and `p` itself satisfies the selected end conditions (always true for
    NotAKnot; `FirstDeriv p'(end)`, `SecondDeriv p''(end)`; Natural when `p'' = 0` there, e.g. straight lines),
    then `solve_for_k` returns the slopes `p'(xᵢ)` and every piece evaluates to `p` — inside the range and, with
    extrapolation, outside it. -/
theorem C16_spline (xs ys : List F) (a0 a1 a2 a3 : F) (hs : StrictInc xs)
    (hy : ys.length = xs.length) (hn : 3 ≤ xs.length) (left right : SingleBoundary F)
    (hpar : ¬ (xs.length = 3 ∧ isNakPair left right = true))
    (hdata : ∀ i (h : i < xs.length), ys[i]'(by omega) = cubicP a0 a1 a2 a3 xs[i])
    (hleft : PolyLeft a1 a2 a3 (xs[0]'(by omega)) left)
    (hright : PolyLeft a1 a2 a3 (xs[xs.length - 1]'(by omega)) right) :
    ∃ ks, ∃ (hk : ks.length = xs.length),
      solveForK (V := F) xs ys (.mixed left right) = .ok ks ∧
      (∀ i (h : i < xs.length), ks[i]'(by omega) = cubicP' a1 a2 a3 xs[i]) ∧
      ∀ i (hi : i + 1 < xs.length) q, (pieceAt xs ys ks i hi hy hk).eval q = cubicP a0 a1 a2 a3 q := by
  let ks : List F := xs.map (cubicP' a1 a2 a3)
  have hk : ks.length = xs.length := by simp [ks]
  have hks : ∀ i (h : i < xs.length), ks[i]'(by omega) = cubicP' a1 a2 a3 xs[i] := by
    intro i h; simp [ks]
  have hp : ∀ i j (hij : i < j) (hj : j < xs.length),
      let P := pc xs ys ks hy hk i j (by omega) hj
      (∀ q, P.eval q = cubicP a0 a1 a2 a3 q) ∧ (∀ q, P.d1 q = cubicP' a1 a2 a3 q) ∧
        (∀ q, P.d2 q = cubicP'' a2 a3 q) ∧ P.d3 = 6 * a3 := by
    intro i j hij hj
    simp only [pc, hdata i (by omega), hdata j hj, hks i (by omega), hks j hj]
    exact hermite_exact a0 a1 a2 a3 _ _ (hs.sub_ne_zero hij hj)
  have hC2 : C2Cond xs ys ks hy hk := fun j h => by
    rw [(hp j (j + 1) (by omega) (by omega)).2.2.1, (hp (j + 1) (j + 2) (by omega) h).2.2.1]
  have p01 := hp 0 1 (by omega) (by omega)
  have p12 := hp 1 2 (by omega) (by omega)
  have q01 := hp (xs.length - 2) (xs.length - 1) (by omega) (by omega)
  have q12 := hp (xs.length - 3) (xs.length - 2) (by omega) (by omega)
  have hL : LeftCond xs ys ks hy hk hn left :=
    hleft.cond (p01.2.1 _) (p01.2.2.1 _) (by rw [p01.2.2.2, p12.2.2.2])
  have hR : RightCond xs ys ks hy hk hn right :=
    hright.cond (q01.2.1 _) (q01.2.2.1 _) (by rw [q12.2.2.2, q01.2.2.2])
  exact ⟨ks, hk, C03_unique xs ys hs hy hn left right hpar ks hk hC2 hL hR, hks,
    fun i hi q => pc_succ xs ys ks hy hk i hi ▸ (hp i (i + 1) (Nat.lt_succ_self i) hi).1 q⟩

/-- The default spline with at least four points reproduces every cubic. -/
theorem C16_notAKnot (xs ys : List F) (a0 a1 a2 a3 : F) (hs : StrictInc xs)
    (hy : ys.length = xs.length) (hn : 4 ≤ xs.length)
    (hdata : ∀ i (h : i < xs.length), ys[i]'(by omega) = cubicP a0 a1 a2 a3 xs[i]) :
    ∃ ks, ∃ (hk : ks.length = xs.length),
      solveForK (V := F) xs ys (.mixed .notAKnot .notAKnot) = .ok ks ∧
      ∀ i (hi : i + 1 < xs.length) q, (pieceAt xs ys ks i hi hy hk).eval q = cubicP a0 a1 a2 a3 q := by
  obtain ⟨ks, hk, h1, _, h3⟩ := C16_spline xs ys a0 a1 a2 a3 hs hy (by omega) .notAKnot .notAKnot
    (by omega) hdata trivial trivial
  exact ⟨ks, hk, h1, h3⟩

/-- The Natural spline reproduces straight lines. -/
theorem C16_natural_line (xs ys : List F) (a0 a1 : F) (hs : StrictInc xs)
    (hy : ys.length = xs.length) (hn : 3 ≤ xs.length)
    (hdata : ∀ i (h : i < xs.length), ys[i]'(by omega) = a0 + a1 * xs[i]) :
    ∃ ks, ∃ (hk : ks.length = xs.length),
      solveForK (V := F) xs ys (.mixed .natural .natural) = .ok ks ∧
      ∀ i (hi : i + 1 < xs.length) q, (pieceAt xs ys ks i hi hy hk).eval q = a0 + a1 * q := by
  obtain ⟨ks, hk, h1, _, h3⟩ := C16_spline xs ys a0 a1 0 0 hs hy hn .natural .natural
    (by simp [isNakPair]) (by intro i h; simp [cubicP, hdata i h])
    (by simp [PolyLeft, SingleBoundary.specialize, cubicP''])
    (by simp [PolyLeft, SingleBoundary.specialize, cubicP''])
  exact ⟨ks, hk, h1, fun i hi q => by simpa [cubicP] using h3 i hi q⟩

end spline

end NdInterp
