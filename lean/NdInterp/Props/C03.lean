/-
C03 — the cubic spline honours the selected boundary conditions and is the unique such spline.

Single lane, every non-periodic pair `(left, right)` of single-end conditions (whole-data-set NotAKnot /
Natural / Clamped are the pairs `(b, b)`; Mixed and per-lane Individual selections are pairs by definition;
lanes via C08), and the Periodic boundary.  Conditions and uniqueness are the two directions of `solveForK_iff`;
for Periodic, of `solveForK_periodic_iff`, read in terms of the pieces by `periodicCond_iff`.
-/
import NdInterp.Lemmas.SplineChar
import NdInterp.Lemmas.Periodic
import Mathlib.Tactic.NormNum

namespace NdInterp

section
variable {F : Type} [Field F] [LinearOrder F] [IsStrictOrderedRing F] [Cmp F]

/-- The slopes `solve_for_k` returns satisfy `LeftCond left` and `RightCond right`: `S'(end) = v` (FirstDeriv,
    Clamped `v = 0`), `S''(end) = v` (SecondDeriv, Natural `v = 0`), equal third derivatives of the two end
    pieces (NotAKnot). -/
theorem C03_conditions (xs ys : List F) (hs : StrictInc xs) (hy : ys.length = xs.length)
    (hn : 3 ≤ xs.length) (left right : SingleBoundary F)
    (hpar : ¬ (xs.length = 3 ∧ isNakPair left right = true)) :
    ∃ ks, ∃ (hk : ks.length = xs.length),
      solveForK (V := F) xs ys (.mixed left right) = .ok ks ∧
      LeftCond xs ys ks hy hk hn left ∧ RightCond xs ys ks hy hk hn right := by
  obtain ⟨ks, h, hk, -⟩ := solveForK_spec xs ys hy hn hs left right
  exact ⟨ks, hk, h, ((solveForK_iff xs ys ks hs hy hn left right hpar hk).mp h).2⟩

/-- Any slopes whose piecewise cubic is C² at the interior knots and meets the two end conditions are the
    computed ones. -/
theorem C03_unique (xs ys : List F) (hs : StrictInc xs) (hy : ys.length = xs.length)
    (hn : 3 ≤ xs.length) (left right : SingleBoundary F)
    (hpar : ¬ (xs.length = 3 ∧ isNakPair left right = true))
    (ks' : List F) (hk' : ks'.length = xs.length)
    (h2 : C2Cond xs ys ks' hy hk') (hl : LeftCond xs ys ks' hy hk' hn left)
    (hr : RightCond xs ys ks' hy hk' hn right) :
    solveForK (V := F) xs ys (.mixed left right) = .ok ks' :=
  (solveForK_iff xs ys ks' hs hy hn left right hpar hk').mpr ⟨h2, hl, hr⟩

/-- Hence every such spline has the pieces (and the values) the interpolator evaluates. -/
theorem C03_unique_values (xs ys : List F) (hs : StrictInc xs) (hy : ys.length = xs.length)
    (hn : 3 ≤ xs.length) (left right : SingleBoundary F)
    (hpar : ¬ (xs.length = 3 ∧ isNakPair left right = true))
    (ks ks' : List F) (hk : ks.length = xs.length) (hk' : ks'.length = xs.length)
    (hsol : solveForK (V := F) xs ys (.mixed left right) = .ok ks)
    (h2 : C2Cond xs ys ks' hy hk') (hl : LeftCond xs ys ks' hy hk' hn left)
    (hr : RightCond xs ys ks' hy hk' hn right) (i : Nat) (hi : i + 1 < xs.length) (q : F) :
    (pieceAt xs ys ks' i hi hy hk').eval q = (pieceAt xs ys ks i hi hy hk).eval q := by
  have := C03_unique xs ys hs hy hn left right hpar ks' hk' h2 hl hr
  rw [hsol] at this
  have e : ks = ks' := by injection this
  subst e
  rfl

/-- Three points, NotAKnot at both ends: both pieces have zero cubic term and are C² at the middle knot — the
    parabola through the points. -/
theorem C03_parabola (xs ys : List F) (hs : StrictInc xs) (hy : ys.length = xs.length)
    (h3 : xs.length = 3) :
    ∃ ks, ∃ (hk : ks.length = xs.length),
      solveForK (V := F) xs ys (.mixed .notAKnot .notAKnot) = .ok ks ∧
      (pc xs ys ks hy hk 0 1 (by omega) (by omega)).d3 = 0 ∧
      (pc xs ys ks hy hk 1 2 (by omega) (by omega)).d3 = 0 ∧
      (pc xs ys ks hy hk 0 1 (by omega) (by omega)).d2 (xs[1]'(by omega)) =
        (pc xs ys ks hy hk 1 2 (by omega) (by omega)).d2 (xs[1]'(by omega)) := by
  have hn : 3 ≤ xs.length := h3.ge
  obtain ⟨ks, h1, h2, hsat, _⟩ := solveForK_spec xs ys hy hn hs .notAKnot .notAKnot
  refine ⟨ks, h2, h1, ?_⟩
  rw [sysRows_parabola xs ys hy hn _ _ ⟨h3, rfl⟩] at hsat
  -- the three rows: `k0 + k1 = 2·slope0`, the interior row, `k1 + k2 = 2·slope1`
  have r0 := hsat.first rfl (show 1 < 3 by decide)
  have r1 := hsat.mid (i := 0) rfl (show 2 < 3 by decide)
  have r2 := hsat.last (i := 1) rfl rfl
  simp only [c1_eq, c2_eq, c3_eq, map1_scalar, map2_scalar, endsOf, Ends.dx0, Ends.dx1, one_mul,
    ← getElem_eq_getD0 ks 0 (by omega), ← getElem_eq_getD0 ks 1 (by omega),
    ← getElem_eq_getD0 ks 2 (by omega)] at r0 r1 r2
  refine ⟨?_, ?_, ?_⟩
  · simp only [pc, pieceCubic, Cubic.d3]
    rw [r0, mul_comm _ (2 : F), sub_self, zero_div, mul_zero]
  · simp only [pc, pieceCubic, Cubic.d3]
    rw [r2, mul_comm _ (2 : F), sub_self, zero_div, mul_zero]
  · refine (c2_iff_row _ _ _ _ _ _ _ _ _ (hs.sub_ne_zero (by omega) (by omega))
      (hs.sub_ne_zero (by omega) (by omega))).mpr ?_
    unfold interiorEq
    linear_combination r1

end

section periodic
variable {F : Type} [Field F] [LinearOrder F] [IsStrictOrderedRing F] [Cmp F] [LawfulCmp F]

omit [IsStrictOrderedRing F] in
theorem solveForK_periodic3_eq (xs ys : List F) (hy : ys.length = xs.length) (h3 : xs.length = 3) :
    solveForK (V := F) xs ys .periodic =
      if ys[0]'(by omega) = ys[2]'(by omega) then .ok (periodic3 (endsOf xs ys hy (by omega)))
      else .error (.builder .valueError) := by
  have e : ys[xs.length - 1]'(by omega) = ys[2]'(by omega) := by congr 1; omega
  rw [solveForK_periodic xs ys hy h3.ge, if_pos h3, e]

/-- Periodic boundary, `n ≥ 4` (the condensed system): the solver succeeds iff the first and last data values
    are equal (otherwise `ValueError`), and the slopes make the spline C² at every interior knot with `S'` and
    `S''` equal at the two ends. -/
theorem C03_periodic (xs ys : List F) (hs : StrictInc xs) (hy : ys.length = xs.length)
    (hn : 4 ≤ xs.length) :
    (ys[0]'(by omega) ≠ ys[xs.length - 1]'(by omega) →
      solveForK (V := F) xs ys .periodic = .error (.builder .valueError)) ∧
    (ys[0]'(by omega) = ys[xs.length - 1]'(by omega) →
      ∃ ks, ∃ (hk : ks.length = xs.length),
        solveForK (V := F) xs ys .periodic = .ok ks ∧ C2Cond xs ys ks hy hk ∧
        (pc xs ys ks hy hk (xs.length - 2) (xs.length - 1) (by omega) (by omega)).d1 xs[xs.length - 1] =
          (pc xs ys ks hy hk 0 1 (by omega) (by omega)).d1 xs[0] ∧
        (pc xs ys ks hy hk (xs.length - 2) (xs.length - 1) (by omega) (by omega)).d2 xs[xs.length - 1] =
          (pc xs ys ks hy hk 0 1 (by omega) (by omega)).d2 xs[0]) := by
  have := periodic_solve xs ys hs hy (by omega)
  refine ⟨fun h => by rwa [if_neg h] at this, fun hends => ?_⟩
  rw [if_pos hends] at this
  obtain ⟨ks, h, hk, hc⟩ := this
  exact ⟨ks, hk, h, (periodicCond_iff xs ys ks hs hy hk _ _ _ _ hends).mp hc⟩

/-- They are the only such slopes: the cyclic system is strictly diagonally dominant (maximum-modulus
    argument). -/
theorem C03_periodic_unique (xs ys ks' : List F) (hs : StrictInc xs) (hy : ys.length = xs.length)
    (hn : 4 ≤ xs.length) (hends : ys[0]'(by omega) = ys[xs.length - 1]'(by omega))
    (hk' : ks'.length = xs.length) (hC2 : C2Cond xs ys ks' hy hk')
    (hd1 : (pc xs ys ks' hy hk' (xs.length - 2) (xs.length - 1) (by omega) (by omega)).d1 xs[xs.length - 1] =
      (pc xs ys ks' hy hk' 0 1 (by omega) (by omega)).d1 xs[0])
    (hd2 : (pc xs ys ks' hy hk' (xs.length - 2) (xs.length - 1) (by omega) (by omega)).d2 xs[xs.length - 1] =
      (pc xs ys ks' hy hk' 0 1 (by omega) (by omega)).d2 xs[0]) :
    solveForK (V := F) xs ys .periodic = .ok ks' :=
  (solveForK_periodic_iff xs ys ks' hs hy (by omega)).mpr
    ⟨hends, hk', (periodicCond_iff xs ys ks' hs hy hk' _ _ _ _ hends).mpr ⟨hC2, hd1, hd2⟩⟩

/-- Three points, Periodic boundary (the closed form of the code): C² at the middle knot, `S'` and `S''` equal
    at the two ends. -/
theorem C03_periodic3 (xs ys : List F) (hs : StrictInc xs) (hy : ys.length = xs.length)
    (h3 : xs.length = 3) (hends : ys[0]'(by omega) = ys[2]'(by omega)) :
    ∃ ks, ∃ (hk : ks.length = xs.length),
      solveForK (V := F) xs ys .periodic = .ok ks ∧
      (pc xs ys ks hy hk 0 1 (by omega) (by omega)).d2 (xs[1]'(by omega)) =
        (pc xs ys ks hy hk 1 2 (by omega) (by omega)).d2 (xs[1]'(by omega)) ∧
      (pc xs ys ks hy hk 1 2 (by omega) (by omega)).d1 (xs[2]'(by omega)) =
        (pc xs ys ks hy hk 0 1 (by omega) (by omega)).d1 (xs[0]'(by omega)) ∧
      (pc xs ys ks hy hk 1 2 (by omega) (by omega)).d2 (xs[2]'(by omega)) =
        (pc xs ys ks hy hk 0 1 (by omega) (by omega)).d2 (xs[0]'(by omega)) := by
  have hends' : ys[0]'(by omega) = ys[xs.length - 1]'(by omega) := by rw [hends]; congr 1; omega
  have := periodic_solve xs ys hs hy (by omega)
  rw [if_pos hends'] at this
  obtain ⟨ks, h, hk, hc⟩ := this
  obtain ⟨c2, d1, d2⟩ := (periodicCond_iff xs ys ks hs hy hk (by omega) (by omega) (by omega) (by omega) hends').mp hc
  refine ⟨ks, hk, h, c2 0 (by omega), ?_, ?_⟩
  · simpa only [h3] using d1
  · simpa only [h3] using d2

end periodic

/-- On the knots `3, 4, 8` with the cubic `x³` (`y = x³`, slopes `3x²`,
    so the interior row holds and both pieces are `x³`: equal third derivatives) the row the
    unrepaired code used — diagonal entry `x[n-1]-x[n-2]` instead of `x[n-2]-x[n-3]` — is
    false, while the repaired row `nakRightEq` is true. -/
theorem C03_defect_witness :
    let x1 : ℚ := 3; let x2 : ℚ := 4; let x3 : ℚ := 8
    let y1 : ℚ := 27; let y2 : ℚ := 64; let y3 : ℚ := 512
    let k1 : ℚ := 27; let k2 : ℚ := 48; let k3 : ℚ := 192
    interiorEq x1 x2 x3 y1 y2 y3 k1 k2 k3 ∧
    (pieceCubic x1 x2 y1 y2 k1 k2).d3 = (pieceCubic x2 x3 y2 y3 k2 k3).d3 ∧
    nakRightEq x1 x2 x3 y1 y2 y3 k2 k3 ∧
    ¬ ((x3 - x1) * k2 + (x3 - x2) * k3 =
        ((x3 - x2) * (x3 - x2) * (y2 - y1) / (x2 - x1) +
          (2 * (x3 - x1) + (x3 - x2)) * (x2 - x1) * (y3 - y2) / (x3 - x2)) / (x3 - x1)) := by
  refine ⟨?_, ?_, ?_, ?_⟩ <;> norm_num [interiorEq, nakRightEq, pieceCubic, Cubic.d3]

end NdInterp
