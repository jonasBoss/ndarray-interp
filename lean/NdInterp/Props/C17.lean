/-
C17 — an interpolator is immutable: answers do not depend on history or concurrency.

The step from the source facts (`C17_facts`) to `C17_state` is Rust's guarantee for shared references to a
type without interior mutability (trusted; exercised by the thread replays of the check).
-/
import NdInterp.Model.Interp
import NdInterp.Gen.SourceFacts

namespace NdInterp

section
variable {α : Type} [Cmp α] [Add α] [Sub α] [Mul α] [Div α] [Neg α] [NatCast α]
  [ToUsize α] [RemEuclid α]

/-- the query operations of `Interp1D` (failing and rejected-buffer calls included) -/
inductive Op1 (α : Type)
  | scalar (q : α)
  | single (q : α)
  | into (q : α) (bufShape : List Nat)
  | array (qshape : List Nat) (qs : List α)
  | arrayInto (qshape : List Nat) (qs : List α) (bufShape : List Nat)

inductive Out1 (α : Type)
  | scalar (r : Except Fault α)
  | arr (r : Except Fault (NdArr α))

def answer1 (it : Interp1 α) : Op1 α → Out1 α
  | .scalar q => .scalar (epScalar it.at q)
  | .single q => .arr (epInterp (it.data.shape.drop 1) it.at q)
  | .into q b => .arr (epInterpInto (it.data.shape.drop 1) it.at q b)
  | .array s qs => .arr (epArray (it.data.shape.drop 1) it.at s qs)
  | .arrayInto s qs b => .arr (epArrayInto (it.data.shape.drop 1) it.at s qs b)

/-- one call: the interpolator after it — unchanged: the model of a `&self` method of a type without interior
    mutability — and the output -/
def step1 (it : Interp1 α) (op : Op1 α) : Interp1 α × Out1 α := (it, answer1 it op)

def run1 (it : Interp1 α) : List (Op1 α) → Interp1 α × List (Out1 α)
  | [] => (it, [])
  | op :: ops =>
    let (it', o) := step1 it op
    let (it'', os) := run1 it' ops
    (it'', o :: os)

/-- No query entry point changes the interpolator. -/
theorem C17_state (it : Interp1 α) (op : Op1 α) : (step1 it op).1 = it := rfl

/-- In any history every output is `answer1 it opᵢ`. -/
theorem C17_history (it : Interp1 α) (ops : List (Op1 α)) :
    (run1 it ops).1 = it ∧ (run1 it ops).2 = ops.map (answer1 it) := by
  induction ops with
  | nil => exact ⟨rfl, rfl⟩
  | cons op ops ih =>
    simp only [run1, step1]
    exact ⟨ih.1, by rw [ih.2]; rfl⟩

/-- The answer to an operation does not depend on where in the history it occurs: running a reordered
    history yields, for each operation, the same output. -/
theorem C17_perm (it : Interp1 α) (ops : List (Op1 α)) (σ : List Nat)
    (hσ : ∀ i ∈ σ, i < ops.length) :
    (run1 it (σ.filterMap (fun i => ops[i]?))).2 = σ.filterMap (fun i => (ops[i]?).map (answer1 it)) := by
  rw [(C17_history it _).2, List.map_filterMap]

/-- a schedule: which thread performs which operation next -/
def runSched (it : Interp1 α) : List (Nat × Op1 α) → Interp1 α × List (Nat × Out1 α)
  | [] => (it, [])
  | (t, op) :: rest =>
    let (it', o) := step1 it op
    let (it'', os) := runSched it' rest
    (it'', (t, o) :: os)

theorem runSched_eq (it : Interp1 α) (sched : List (Nat × Op1 α)) :
    (runSched it sched).2 = sched.map fun p => (p.1, answer1 it p.2) := by
  induction sched with
  | nil => rfl
  | cons p rest ih => simp only [runSched, step1, ih, List.map_cons]

/-- Under any interleaving, thread `t` observes exactly what its own operation
    sequence returns when run alone on the interpolator. -/
theorem C17_schedule (it : Interp1 α) (sched : List (Nat × Op1 α)) (t : Nat) :
    ((runSched it sched).2.filter (fun p => p.1 == t)).map (·.2) =
      (run1 it ((sched.filter (fun p => p.1 == t)).map (·.2))).2 := by
  rw [(C17_history it _).2, runSched_eq, List.filter_map, List.map_map, List.map_map]
  rfl

end

def isQueryMethod (m : String × String × String × String × Recv) : Bool :=
  (m.2.1 == "Interp1D" || m.2.1 == "Interp2D") &&
    (["interp_scalar", "interp", "interp_into", "interp_array", "interp_array_into", "interp_array_into_1d",
      "get_buffer_shape", "index_point", "get_index_left_of", "is_in_range", "is_in_x_range",
      "is_in_y_range"].contains m.2.2.1)
  || (m.2.2.1 == "interp_into")

/-- On the facts regenerated from /repo/src on every run: every `pub` query method of `Interp1D` / `Interp2D` and
    every strategy `interp_into` takes `&self`; no field, item or expression of the crate mentions an
    interior-mutability or global-state construct (`Cell`, `RefCell`, `UnsafeCell`, `Mutex`, `RwLock`, `Atomic*`,
    `OnceCell`, `static`, `thread_local`, …) outside `cfg(test)` and the guarded hooks. -/
theorem C17_facts :
    Gen.mutableStateHits = [] ∧
    (Gen.methods.filter isQueryMethod).all (fun m => m.2.2.2.2 == Recv.ref) = true ∧
    -- every query entry point was found (the translator did not silently miss the impl blocks)
    (Gen.methods.filter isQueryMethod).length = 24 ∧
    -- no method of the interpolator types takes `&mut self`
    (Gen.methods.all (fun m => m.2.2.2.2 != Recv.refMut)) = true := by
  decide

end NdInterp
