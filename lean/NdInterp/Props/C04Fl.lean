/-
C04 — rounding of the bilinear blend under the standard model (the model of `C01_rounding`; no overflow / underflow).
`Bilinear::interp_into` evaluates three nested `calc_frac`s (two along x, one along y), 18 operations.  In range `calc_frac`
is a convex combination of its two values, so it is bounded by them and 1-Lipschitz in them (max-norm): the roundings of
the x passes reach the result unamplified, next to the rounding of the y pass.
-/
import NdInterp.Props.C01

namespace NdInterp

section
variable {F : Type} [Field F] [LinearOrder F] [IsStrictOrderedRing F]

/-- the bilinear blend with every operation of its three `calc_frac`s rounded -/
def bilinearFl (x1 x2 y1 y2 z11 z12 z21 z22 x y d1 d2 d3 d4 d5 d6 e1 e2 e3 e4 e5 e6 f1 f2 f3 f4 f5 f6 : F) : F :=
  let z1 := calcFracFl x1 z11 x2 z21 x d1 d2 d3 d4 d5 d6
  let z2 := calcFracFl x1 z12 x2 z22 x e1 e2 e3 e4 e5 e6
  calcFracFl y1 z1 y2 z2 y f1 f2 f3 f4 f5 f6

/-- the exact blend, as the model's `bilinearInterp` computes it -/
def bilinearExact (x1 x2 y1 y2 z11 z12 z21 z22 x y : F) : F :=
  calcFrac y1 (calcFrac x1 z11 x2 z21 x) y2 (calcFrac x1 z12 x2 z22 x) y

/-- Inside the cell the computed blend is within `(2B + B²)·M` of the exact one, `B = 13u + 12u²` the bound of `C01_rounding`,
    `M = max |z_ij|` over the four corners: about 13 ulps of the largest corner value. -/
theorem C04_rounding (x1 x2 y1 y2 z11 z12 z21 z22 x y u M d1 d2 d3 d4 d5 d6 e1 e2 e3 e4 e5 e6 f1 f2 f3 f4 f5 f6 : F)
    (hx : x1 < x2) (hx1 : x1 ≤ x) (hx2 : x ≤ x2) (hy : y1 < y2) (hy1 : y1 ≤ y) (hy2 : y ≤ y2)
    (hu0 : 0 ≤ u) (hu : u ≤ 1/16)
    (hd1 : |d1| ≤ u) (hd2 : |d2| ≤ u) (hd3 : |d3| ≤ u) (hd4 : |d4| ≤ u) (hd5 : |d5| ≤ u) (hd6 : |d6| ≤ u)
    (he1 : |e1| ≤ u) (he2 : |e2| ≤ u) (he3 : |e3| ≤ u) (he4 : |e4| ≤ u) (he5 : |e5| ≤ u) (he6 : |e6| ≤ u)
    (hf1 : |f1| ≤ u) (hf2 : |f2| ≤ u) (hf3 : |f3| ≤ u) (hf4 : |f4| ≤ u) (hf5 : |f5| ≤ u) (hf6 : |f6| ≤ u)
    (h11 : |z11| ≤ M) (h12 : |z12| ≤ M) (h21 : |z21| ≤ M) (h22 : |z22| ≤ M) :
    |bilinearFl x1 x2 y1 y2 z11 z12 z21 z22 x y d1 d2 d3 d4 d5 d6 e1 e2 e3 e4 e5 e6 f1 f2 f3 f4 f5 f6
        - bilinearExact x1 x2 y1 y2 z11 z12 z21 z22 x y| ≤
      (2 * (13 * u + 12 * u ^ 2) + (13 * u + 12 * u ^ 2) ^ 2) * M := by
  set B := 13 * u + 12 * u ^ 2
  unfold bilinearFl bilinearExact
  set z1 := calcFrac x1 z11 x2 z21 x
  set z2 := calcFrac x1 z12 x2 z22 x
  set z1' := calcFracFl x1 z11 x2 z21 x d1 d2 d3 d4 d5 d6
  set z2' := calcFracFl x1 z12 x2 z22 x e1 e2 e3 e4 e5 e6
  have r1 : |z1' - z1| ≤ B * M := C01_rounding x1 z11 x2 z21 x u M d1 d2 d3 d4 d5 d6 hx hx1 hx2 hu0 hu hd1 hd2 hd3 hd4 hd5 hd6 h11 h21
  have r2 : |z2' - z2| ≤ B * M := C01_rounding x1 z12 x2 z22 x u M e1 e2 e3 e4 e5 e6 hx hx1 hx2 hu0 hu he1 he2 he3 he4 he5 he6 h12 h22
  have b1 : |z1'| ≤ M + B * M := abs_le_add_of_sub r1 (calcFrac_abs_le x1 x2 z11 z21 x M hx hx1 hx2 h11 h21)
  have b2 : |z2'| ≤ M + B * M := abs_le_add_of_sub r2 (calcFrac_abs_le x1 x2 z12 z22 x M hx hx1 hx2 h12 h22)
  -- the y pass rounds at the rounded values of the x passes; `calc_frac` is 1-Lipschitz in them
  have s1 := C01_rounding y1 z1' y2 z2' y u (M + B * M) f1 f2 f3 f4 f5 f6 hy hy1 hy2 hu0 hu hf1 hf2 hf3 hf4 hf5 hf6 b1 b2
  have s2 := calcFrac_lipschitz y1 y2 z1' z2' z1 z2 y (B * M) hy hy1 hy2 r1 r2
  calc _ ≤ B * (M + B * M) + B * M := (abs_sub_le _ _ _).trans (add_le_add s1 s2)
    _ = (2 * B + B ^ 2) * M := by ring

/-- the tolerance the float runs of the check use, `3B(1 + 4B)·M`, is implied by the proved bound -/
theorem C04_rounding_check_bound (u M : F) (hu0 : 0 ≤ u) (hM : 0 ≤ M) :
    (2 * (13 * u + 12 * u ^ 2) + (13 * u + 12 * u ^ 2) ^ 2) * M ≤
      3 * (13 * u + 12 * u ^ 2) * (1 + 4 * (13 * u + 12 * u ^ 2)) * M := by
  have hB0 : 0 ≤ 13 * u + 12 * u ^ 2 := by positivity
  have := mul_nonneg hB0 hB0
  exact mul_le_mul_of_nonneg_right (by linarith) hM

/-- non-vacuity: with all perturbations zero the rounded blend of an ordinary cell is the exact one -/
example : bilinearFl (0 : ℚ) 1 0 2 1 2 3 5 (1/2) (1/2) 0 0 0 0 0 0 0 0 0 0 0 0 0 0 0 0 0 0 = bilinearExact 0 1 0 2 1 2 3 5 (1/2) (1/2) := by
  norm_num [bilinearFl, bilinearExact, calcFracFl, calcFrac]

end

end NdInterp
