/-
C19 — the unchecked type cast of the 1-D fast path only ever relabels identical types.

The fast path being unobservable is `C09_fast_eq_general`.
-/
import NdInterp.Model.Dims
import NdInterp.Gen.SourceFacts

namespace NdInterp

/-- the data dimension types an interpolator over `minRank` interpolated axes supports -/
def dataDims (minRank : Nat) : List DimTy :=
  ((List.range 7).filterMap (fun k => if h : k < 7 then (if minRank ≤ k then some (DimTy.ix ⟨k, h⟩) else none) else none))
    ++ [DimTy.dyn]

/-- By evaluation over the whole (finite) table, for every supported data dimension type `D`:
    `<Ix1 as DimAdd<D::Smaller>>::Output = D` (Interp1D, `D ∈ Ix1..Ix6, IxDyn`) and
    `<Ix1 as DimAdd<<D::Smaller>::Smaller>>::Output = D::Smaller` (Interp2D, `D ∈ Ix2..Ix6, IxDyn`). -/
theorem C19_table :
    (∀ d ∈ dataDims 1, (DimTy.ix 1).add d.smaller = d) ∧
    (∀ d ∈ dataDims 2, (DimTy.ix 1).add d.smaller.smaller = d.smaller) := by
  decide

def CastSite.sound (s : CastSite) : Bool :=
  s.guard == Guard.dqIsIx1 && (dataDims s.minRank).all (fun d => s.src.sameAt (.ix 1) d s.dst)

/-- On the facts regenerated from /repo/src on every run: every `cast_unchecked` site lies under the guard
    `TypeId::of::<Dq>() == TypeId::of::<Ix1>()`, and with `Dq := Ix1` its source and destination type expressions
    denote the same type for every supported `D`; the translator left no cast site uninterpreted. -/
theorem C19_sites :
    Gen.castSites.all CastSite.sound = true ∧ Gen.problems = [] ∧ Gen.castSites.length = 5 := by
  decide

/-- `+ 1`: a long cast is formatted with the call on the line after `unsafe {` -/
def unsafeOk (u : String × Nat) : Bool :=
  u.1 == "src/lib.rs" ||
    Gen.castSites.any (fun s => s.file == u.1 && (s.line == u.2 || s.line == u.2 + 1))

/-- Every `unsafe` token of the crate is either in the definition of `cast_unchecked` (src/lib.rs) or one of
    those guarded sites. -/
theorem C19_unsafe : Gen.unsafeSites.all unsafeOk = true := by
  decide

/-! non-vacuity: the table has the expected 7 resp. 6 entries -/
example : (dataDims 1).length = 7 ∧ (dataDims 2).length = 6 := by decide

end NdInterp
