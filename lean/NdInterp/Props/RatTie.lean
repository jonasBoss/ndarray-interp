/-
The property theorems, instantiated at `Rat` **with the core-Lean instances the compiled driver
executes** (spelled out explicitly so that instance resolution cannot pick anything else).
These are the statements the exact-rational correspondence check ties to the Rust code.
-/
import NdInterp.Lemmas.RatInst
import NdInterp.Props.C11
import NdInterp.Props.C12
import Mathlib.Tactic.NormNum

namespace NdInterp

abbrev monotonicPropQ (xs : List Rat) := @monotonicProp Rat instCmpRat xs
abbrev lowerIndexQ (xs : List Rat) (q : Rat) :=
  @lowerIndex Rat instCmpRat Rat.instAdd Rat.instSub Rat.instMul Rat.instDiv Rat.instNatCast
    instToUsizeRat xs q

theorem C12_iff_Q (xs : List Rat) (m : Monotonic) :
    monotonicPropQ xs = .ok m ↔ Class Rat xs m := C12_iff xs m

theorem C11_exact_Q (xs : List Rat) (q : Rat) (hs : StrictInc xs) (hlen : xs.length < 2 ^ 64) :
    ∃ i, lowerIndexQ xs q = .ok i ∧ Bracket xs q i := C11_exact xs q hs hlen

/-! non-vacuity -/

example : StrictInc [(0 : Rat), 1, 3, 7] :=
  strictInc_of_allPairs _ (by decide) (by norm_num [AllPairs])

example : monotonicPropQ [0, 1, 3, 7] = .ok (.rising true) := by decide +kernel
example : monotonicPropQ [0, 1, 1, 7] = .ok (.rising false) := by decide +kernel
example : monotonicPropQ [0, 1, 1/2] = .ok .notMonotonic := by decide +kernel
example : lowerIndexQ [0, 1, 3, 7] 2 = .ok 1 := by decide +kernel
example : lowerIndexQ [0, 1, 3, 7] 7 = .ok 2 := by decide +kernel

end NdInterp
