/-
C06 — rounding of the spline segment evaluation at *any* argument.  Outside the data range `CubicSplineStrategy::interp_into`
evaluates the 13 rounded operations of `C02_eval_rounding` with the first / last interval's data and `t = (x − x_l)/(x_r − x_l)`
outside `[0, 1]`.  As for C02 this is the evaluation given the coefficients; the rounding of the solve that produces them is not
bounded by a theorem.
-/
import NdInterp.Props.C02Fl

namespace NdInterp

section
variable {F : Type} [Field F] [LinearOrder F] [IsStrictOrderedRing F]

/-- `M = max(|y_l|, |y_r|, |a|, |b|)`, `K ≥ 1` a bound on `|t|` and `|1 − t|`: the cubic growth of the continuation is the natural
    scale (`K = 1` is the in-range case, with a slightly larger constant than `C02_eval_rounding`). -/
theorem C06_spline_eval_rounding (xl xr yl yr a b x u M K d1 d2 d3 d4 d5 d6 d7 d8 d9 d10 d11 d12 d13 : F)
    (hx : xl < xr) (hK : 1 ≤ K) (hKt : |(x - xl) / (xr - xl)| ≤ K) (hKs : |1 - (x - xl) / (xr - xl)| ≤ K)
    (hu0 : 0 ≤ u) (hu : u ≤ 1/16)
    (e1 : |d1| ≤ u) (e2 : |d2| ≤ u) (e3 : |d3| ≤ u) (e4 : |d4| ≤ u) (e5 : |d5| ≤ u) (e6 : |d6| ≤ u) (e7 : |d7| ≤ u)
    (e8 : |d8| ≤ u) (e9 : |d9| ≤ u) (e10 : |d10| ≤ u) (e11 : |d11| ≤ u) (e12 : |d12| ≤ u) (e13 : |d13| ≤ u)
    (hyl : |yl| ≤ M) (hyr : |yr| ≤ M) (ha : |a| ≤ M) (hb : |b| ≤ M) :
    |splEvalFl xl xr yl yr a b x d1 d2 d3 d4 d5 d6 d7 d8 d9 d10 d11 d12 d13 - splEvalExact xl xr yl yr a b x| ≤ 132 * u * M * K ^ 3 := by
  refine (splEvalFl_err xl xr yl yr a b x u M K (2 * K) d1 d2 d3 d4 d5 d6 d7 d8 d9 d10 d11 d12 d13 hKt hKs
    ((add_le_add hKs hKt).trans_eq (two_mul K).symm) hu0 hu e1 e2 e3 e4 e5 e6 e7 e8 e9 e10 e11 e12 e13 hyl hyr ha hb).trans ?_
  -- `K ≤ K³` leaves `(120(1+u) + 4)·K³ ≤ 132·K³`
  have hK0 : 0 ≤ K := zero_le_one.trans hK
  have h1 : 0 ≤ K * (u * M) := mul_nonneg hK0 (mul_nonneg hu0 ((abs_nonneg _).trans hyl))
  have h3 : K * (u * M) ≤ K ^ 3 * (u * M) := by
    have : 1 * 1 ≤ K * K := mul_le_mul hK hK zero_le_one hK0
    calc K * (u * M) = 1 * 1 * (K * (u * M)) := by ring
      _ ≤ K * K * (K * (u * M)) := mul_le_mul_of_nonneg_right this h1
      _ = K ^ 3 * (u * M) := by ring
  have := absorb hu h1
  have := absorb hu (h1.trans h3)
  linarith

/-- non-vacuity: a query one interval length beyond the right end (`t = 2`, `K = 2`) with concrete perturbations -/
example : |splEvalFl (0 : ℚ) 2 1 3 (-1) 2 4 (1/32) 0 0 0 0 (-1/32) 0 0 0 0 0 0 (1/32)
    - splEvalExact 0 2 1 3 (-1) 2 4| ≤ 132 * (1/32) * 3 * 2 ^ 3 :=
  C06_spline_eval_rounding 0 2 1 3 (-1) 2 4 (1/32) 3 2 (1/32) 0 0 0 0 (-1/32) 0 0 0 0 0 0 (1/32)
    (by norm_num) (by norm_num) (by norm_num [abs_of_nonneg]) (by norm_num [abs_of_nonneg]) (by norm_num) (by norm_num)
    (by norm_num [abs_of_nonneg]) (by norm_num) (by norm_num) (by norm_num) (by norm_num) (by norm_num [abs_of_nonneg]) (by norm_num)
    (by norm_num) (by norm_num) (by norm_num) (by norm_num) (by norm_num) (by norm_num [abs_of_nonneg])
    (by norm_num [abs_of_nonneg]) (by norm_num [abs_of_nonneg]) (by norm_num [abs_of_nonneg]) (by norm_num [abs_of_nonneg])

end

end NdInterp
