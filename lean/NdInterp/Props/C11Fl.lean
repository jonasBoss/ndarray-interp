/-
C11 — the O(1) index guess of `get_lower_index` under the standard model of floating-point arithmetic.

`C11_guess` (Props/C11.lean) shows in exact arithmetic that the guess `cast(calc_frac((x₀,0),(x_{n-1},n-1),q))`
is an index of the axis.  For `f64`/`f32` every one of the six operations of `calc_frac` rounds.  Here the
same perturbed evaluation `calcFracFl` that `C01_rounding` uses (each operation returns `exact·(1+δ)`,
`|δ| ≤ u`; overflow and underflow excluded — that is the property's premise "span and quotient finite")
is shown to stay inside `[0, n)`.
-/
import NdInterp.Props.C01

namespace NdInterp

section
variable {α : Type} [Field α] [LinearOrder α] [IsStrictOrderedRing α]

theorem guessFl_bounds (x0 xl N q u d1 d2 d3 d4 d5 d6 : α)
    (hN : 0 ≤ N) (h1 : x0 < q) (h2 : q < xl)
    (hu0 : 0 ≤ u) (hu : u ≤ 1/16)
    (e1 : |d1| ≤ u) (e2 : |d2| ≤ u) (e3 : |d3| ≤ u) (e4 : |d4| ≤ u) (e5 : |d5| ≤ u) (e6 : |d6| ≤ u) :
    0 ≤ calcFracFl x0 0 xl N q d1 d2 d3 d4 d5 d6 ∧
      calcFracFl x0 0 xl N q d1 d2 d3 d4 d5 d6 ≤ N * (1 + 7 * u + 6 * u ^ 2) := by
  obtain ⟨ht0, ht1⟩ := unit_coord (h1.trans h2) h1.le h2.le
  have h := calcFracFl_err x0 0 xl N q u d1 d2 d3 d4 d5 d6 hu0 hu e1 e2 e3 e4 e5 e6 le_rfl le_rfl
  rw [calcFrac_repr, sub_zero, add_zero, abs_of_nonneg (mul_nonneg hN ht0)] at h
  -- the exact guess `P = N·t` lies in `[0, N]`, the rounded one within `(7u + 6u²)·P` of it
  set P := N * ((q - x0) / (xl - x0))
  obtain ⟨l, r⟩ := abs_le.mp h
  have hB : 0 ≤ 1 - (7 * u + 6 * u ^ 2) := by have := absorb hu hu0; linarith
  have := mul_nonneg (mul_nonneg hN ht0) hB
  have := mul_le_mul_of_nonneg_right (mul_le_of_le_one_right hN ht1) (by positivity : 0 ≤ 1 + 7 * u + 6 * u ^ 2)
  constructor <;> linarith

variable [Cmp α] [LawfulCmp α] [ToUsize α] [LawfulToUsize α]

omit [Cmp α] [LawfulCmp α] in
/-- For a query strictly inside the range, with `(n-1)·(7u+6u²) < 1` (for `f64`, `u = 2⁻⁵³`: every `n < 2⁵⁰`; for `f32`,
    `u = 2⁻²⁴`: every `n ≤ 2 396 745`), the rounded guess converts to `some g` with `g < n`: the cast does not fail and the
    first read `self[mid_idx]` is inside the axis. -/
theorem C11_guess_rounding (xs : List α) (q u d1 d2 d3 d4 d5 d6 : α)
    (hs : StrictInc xs) (hlen : xs.length < 2 ^ 64)
    (h1 : xs[0]'(by have := hs.1; omega) < q)
    (h2 : q < xs[xs.length - 1]'(by have := hs.1; omega))
    (hu0 : 0 ≤ u) (hu : u ≤ 1/16)
    (e1 : |d1| ≤ u) (e2 : |d2| ≤ u) (e3 : |d3| ≤ u) (e4 : |d4| ≤ u) (e5 : |d5| ≤ u) (e6 : |d6| ≤ u)
    (hsmall : ((xs.length - 1 : Nat) : α) * (7 * u + 6 * u ^ 2) < 1) :
    ∃ g, ToUsize.toUsize?
        (calcFracFl (xs[0]'(by have := hs.1; omega)) 0 (xs[xs.length - 1]'(by have := hs.1; omega))
          ((xs.length - 1 : Nat) : α) q d1 d2 d3 d4 d5 d6) = some g ∧ g < xs.length := by
  have hn := hs.1
  have hN : (0 : α) ≤ ((xs.length - 1 : Nat) : α) := Nat.cast_nonneg _
  obtain ⟨hv0, hv1⟩ := guessFl_bounds _ _ _ q u d1 d2 d3 d4 d5 d6 hN h1 h2 hu0 hu e1 e2 e3 e4 e5 e6
  refine toUsize_lt hv0 (hv1.trans_lt ?_) hlen
  have : ((xs.length : Nat) : α) = ((xs.length - 1 : Nat) : α) + 1 := by
    exact_mod_cast (show xs.length = xs.length - 1 + 1 by omega)
  linarith

/-- `get_lower_index` with the rounded guess returns the bracket; it neither panics on the cast nor
    on a read, and never returns the last index. -/
theorem C11_float_stdmodel (xs : List α) (q u d1 d2 d3 d4 d5 d6 : α)
    (hs : StrictInc xs) (hlen : xs.length < 2 ^ 64)
    (h1 : xs[0]'(by have := hs.1; omega) < q)
    (h2 : q < xs[xs.length - 1]'(by have := hs.1; omega))
    (hu0 : 0 ≤ u) (hu : u ≤ 1/16)
    (e1 : |d1| ≤ u) (e2 : |d2| ≤ u) (e3 : |d3| ≤ u) (e4 : |d4| ≤ u) (e5 : |d5| ≤ u) (e6 : |d6| ≤ u)
    (hsmall : ((xs.length - 1 : Nat) : α) * (7 * u + 6 * u ^ 2) < 1) :
    ∃ i, lowerIndexWith xs q (ToUsize.toUsize?
        (calcFracFl (xs[0]'(by have := hs.1; omega)) 0 (xs[xs.length - 1]'(by have := hs.1; omega))
          ((xs.length - 1 : Nat) : α) q d1 d2 d3 d4 d5 d6)) = .ok i ∧ Bracket xs q i := by
  obtain ⟨g, hg, hg2⟩ := C11_guess_rounding xs q u d1 d2 d3 d4 d5 d6 hs hlen h1 h2 hu0 hu e1 e2 e3 e4 e5 e6 hsmall
  rw [hg]
  exact C11_bracket xs q g hs hg2

end

/-- non-vacuity of `hsmall` (`u = 2⁻⁵`, a three-point axis) -/
example : ((3 - 1 : Nat) : ℚ) * (7 * (1/32) + 6 * (1/32) ^ 2) < 1 := by norm_num

/-- The hypothesis on `n` cannot simply be dropped: at `N = n-1 = 2/u` the perturbations `δ₄ = δ₆ = u` (all others zero)
    drive the guess to `≥ N + 1 = n` for `t` close to 1, so the first read would panic.  (IEEE arithmetic is monotone, which
    the δ-model does not know; the runtime half of the check exercises long axes.) -/
theorem C11_guess_rounding_sharp :
    ∃ (x0 xl N q u d4 d6 : ℚ), x0 < q ∧ q < xl ∧ 0 ≤ u ∧ u ≤ 1/16 ∧ |d4| ≤ u ∧ |d6| ≤ u ∧ N = 2 / u ∧
      N + 1 ≤ calcFracFl x0 0 xl N q 0 0 0 d4 0 d6 := by
  refine ⟨0, 1, 32, 63/64, 1/16, 1/16, 1/16, ?_⟩
  norm_num [calcFracFl]

end NdInterp
