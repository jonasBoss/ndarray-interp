/-
C07 — a periodic spline with extrapolation is evaluated as a periodic function.

`P = x[n-1] - x[0]`.  Single lane (lanes via C08); the statements hold for any slopes `ks`, i.e. they are
properties of the evaluation (`Extrapolate::Periodic`) and of the equal-ends check.
-/
import NdInterp.Props.C02
import NdInterp.Model.Interp
import Mathlib.Algebra.Order.Floor.Ring
import Mathlib.Data.Rat.Floor

namespace NdInterp

/-- `rem_euclid` by a positive period: subtracts an integer number of periods and lands in `[0, p)` -/
class LawfulRemEuclid (α : Type) [Field α] [LinearOrder α] [RemEuclid α] : Prop where
  spec : ∀ a p : α, 0 < p →
    ∃ k : ℤ, RemEuclid.remEuclid a p = a - k * p ∧ 0 ≤ RemEuclid.remEuclid a p ∧
      RemEuclid.remEuclid a p < p

instance : LawfulRemEuclid Rat where
  spec a p hp := by
    refine ⟨⌊a / p⌋, ?_, ?_, ?_⟩
    · show a - (if p < 0 then -p else p) * ((a / (if p < 0 then -p else p)).floor : Rat) = _
      rw [if_neg (not_lt.mpr hp.le)]
      have : (a / p).floor = ⌊a / p⌋ := rfl
      rw [this]; ring
    · show 0 ≤ a - (if p < 0 then -p else p) * ((a / (if p < 0 then -p else p)).floor : Rat)
      rw [if_neg (not_lt.mpr hp.le)]
      have h := Int.floor_le (a / p)
      have : (a / p).floor = ⌊a / p⌋ := rfl
      rw [this]
      have : (⌊a / p⌋ : Rat) * p ≤ a := by
        have := mul_le_mul_of_nonneg_right h hp.le
        rwa [div_mul_cancel₀ _ (ne_of_gt hp)] at this
      linarith
    · show a - (if p < 0 then -p else p) * ((a / (if p < 0 then -p else p)).floor : Rat) < p
      rw [if_neg (not_lt.mpr hp.le)]
      have h := Int.lt_floor_add_one (a / p)
      have : (a / p).floor = ⌊a / p⌋ := rfl
      rw [this]
      have : a < ((⌊a / p⌋ : Rat) + 1) * p := by
        have := mul_lt_mul_of_pos_right h hp
        rwa [div_mul_cancel₀ _ (ne_of_gt hp)] at this
      linarith

theorem except_bind_ok {ε β γ : Type} (x : Except ε β) (f : β → Except ε γ) (s : γ)
    (h : x >>= f = .ok s) : ∃ k, x = .ok k ∧ f k = .ok s :=
  Except.bind_eq_ok.mp h

/-- The mode stored by `CubicSpline::build` is `splineExtrapolate`: `Periodic` iff the boundary is `Periodic`
    and extrapolation is enabled. -/
theorem C07_mode {α : Type} [Cmp α] [Add α] [Sub α] [Mul α] [Div α] [Neg α] [NatCast α]
    [ToUsize α] [RemEuclid α] (ext : Bool) (bc : BoundaryCondition α) (xs : List α) (data : NdArr α)
    (s : SplineStrat (List α)) (h : splineBuild ext bc xs data = .ok s) :
    s.extrapolate = splineExtrapolate ext bc ∧
    (splineExtrapolate ext bc = .periodic ↔
      ext = true ∧ (match bc with | .periodic => True | _ => False)) := by
  constructor
  · -- every branch of `splineBuild` ends with the same `pure` of a record with this field
    unfold splineBuild at h
    cases bc <;> dsimp only at h <;> try split at h
    all_goals
      obtain ⟨k, -, hk⟩ := except_bind_ok _ _ _ h
      cases hk
      rfl
  · cases ext <;> cases bc <;> simp [splineExtrapolate]

section
variable {F : Type} [Field F] [LinearOrder F]

theorem inRange_iff_getD (xs : List F) (q : F) :
    InRange xs q ↔ 0 < xs.length ∧ xs.getD 0 0 ≤ q ∧ q ≤ xs.getD (xs.length - 1) 0 := by
  simp only [InRange, getElem_eq_getD0, exists_prop]

variable [IsStrictOrderedRing F]

/-- two points of `[x0, xn)` that differ by a multiple `m` of the period are equal: `|r1 - r2| < xn - x0`
    leaves `|m| < 1` -/
theorem eq_of_sub_eq_int_mul {x0 xn r1 r2 : F} {m : ℤ} (b1 : x0 ≤ r1) (c1 : r1 < xn) (b2 : x0 ≤ r2)
    (c2 : r2 < xn) (h : r1 - r2 = m * (xn - x0)) : r1 = r2 := by
  have hlt := abs_sub_lt_of_nonneg_of_lt (sub_nonneg.mpr b1) (sub_lt_sub_right c1 x0)
    (sub_nonneg.mpr b2) (sub_lt_sub_right c2 x0)
  rw [sub_sub_sub_cancel_right, h, abs_mul, abs_of_pos (sub_pos.mpr (b1.trans_lt c1)),
    mul_lt_iff_lt_one_left (sub_pos.mpr (b1.trans_lt c1)), ← Int.cast_abs] at hlt
  have hm : m = 0 := Int.abs_lt_one_iff.mp (Int.cast_lt (R := F).mp (by rwa [Int.cast_one]))
  rwa [hm, Int.cast_zero, zero_mul, sub_eq_zero] at h

end

section
variable {F : Type} [Field F] [LinearOrder F] [Cmp F] [LawfulCmp F] [ToUsize F] [RemEuclid F]

theorem periodic_eq_wrapped (xs ys ks : List F) (q : F) (h0 : 0 < xs.length)
    (hw : InRange xs (wrapPoint xs q)) :
    splineInterp (V := F) (splineOf xs ys ks .periodic) xs ys q =
      splineInterp (V := F) (splineOf xs ys ks .no) xs ys (wrapPoint xs q) := by
  rw [splineInterp_unfold _ xs ys q h0, splineInterp_unfold _ xs ys _ h0]
  simp only [splineOf, hw, reduceCtorEq, false_and, not_true_eq_false, and_false, if_false, if_true]
  rfl

theorem periodic_of_inRange (xs ys ks : List F) (q : F) (hin : InRange xs q) :
    splineInterp (V := F) (splineOf xs ys ks .periodic) xs ys q =
      splineInterp (V := F) (splineOf xs ys ks .no) xs ys q := by
  have hw : wrapPoint xs q = q := if_pos hin
  have := periodic_eq_wrapped xs ys ks q hin.1 (by rwa [hw])
  rwa [hw] at this

variable [IsStrictOrderedRing F] [LawfulRemEuclid F]

theorem periodic_wrap (xs ys ks : List F) (q : F) (hs : StrictInc xs) (hout : ¬ InRange xs q) :
    ∃ w : F, ∃ k : ℤ, w = q - k * (xs.getD (xs.length - 1) 0 - xs.getD 0 0) ∧
      xs.getD 0 0 ≤ w ∧ w < xs.getD (xs.length - 1) 0 ∧
      splineInterp (V := F) (splineOf xs ys ks .periodic) xs ys q =
        splineInterp (V := F) (splineOf xs ys ks .no) xs ys w := by
  have hn := hs.1
  obtain ⟨k, e1, e2, e3⟩ := LawfulRemEuclid.spec (q - xs.getD 0 0) _
    (sub_pos.mpr (hs.getD_lt_getD (i := 0) (j := xs.length - 1) (by omega) (by omega)))
  have hw : wrapPoint xs q = _ := if_neg hout
  have lo := le_add_of_nonneg_left (a := xs.getD 0 0) e2
  have hi := lt_sub_iff_add_lt.mp e3
  rw [← hw] at lo hi
  exact ⟨_, k, by rw [hw, e1]; ring, lo, hi,
    periodic_eq_wrapped xs ys ks q (by omega) ((inRange_iff_getD xs _).mpr ⟨by omega, lo, hi.le⟩)⟩

end

section
variable {F : Type} [Field F] [LinearOrder F] [IsStrictOrderedRing F] [Cmp F] [LawfulCmp F]
  [ToUsize F] [LawfulToUsize F] [RemEuclid F] [LawfulRemEuclid F]

/-- Outside the range the result is the in-range value at the wrapped point `w = q - k·P` (`k ∈ ℤ`),
    `x[0] ≤ w < x[n-1]`. -/
theorem C07_wrap (xs ys ks : List F) (q : F) (hs : StrictInc xs) (hout : ¬ InRange xs q) :
    ∃ w : F, ∃ k : ℤ,
      w = q - k * (xs[xs.length - 1]'(by have := hs.1; omega) - xs[0]'(by have := hs.1; omega)) ∧
      xs[0]'(by have := hs.1; omega) ≤ w ∧ w < xs[xs.length - 1]'(by have := hs.1; omega) ∧
      splineInterp (V := F) (splineOf xs ys ks .periodic) xs ys q =
        splineInterp (V := F) (splineOf xs ys ks .no) xs ys w := by
  simpa only [getElem_eq_getD0] using periodic_wrap xs ys ks q hs hout

/-- every query is evaluated at a representative `r ∈ [x₀, x_{n-1})` of its class modulo `P`; for
    `q = x_{n-1}` this uses that the first and last data values are equal -/
theorem periodic_rep (xs ys ks : List F) (q : F) (hs : StrictInc xs) (hy : ys.length = xs.length)
    (hk : ks.length = xs.length) (hlen : xs.length < 2 ^ 64)
    (hends : ys.getD 0 0 = ys.getD (xs.length - 1) 0) :
    ∃ r : F, ∃ k : ℤ, r = q - k * (xs.getD (xs.length - 1) 0 - xs.getD 0 0) ∧
      xs.getD 0 0 ≤ r ∧ r < xs.getD (xs.length - 1) 0 ∧
      splineInterp (V := F) (splineOf xs ys ks .periodic) xs ys q =
        splineInterp (V := F) (splineOf xs ys ks .no) xs ys r := by
  have hn := hs.1
  have h0 : 0 < xs.length := by omega
  by_cases hin : InRange xs q
  · have hper := periodic_of_inRange xs ys ks q hin
    obtain ⟨-, hlo, hhi⟩ := (inRange_iff_getD xs q).mp hin
    rcases lt_or_eq_of_le hhi with hlt | rfl
    · exact ⟨q, 0, by rw [Int.cast_zero, zero_mul, sub_zero], hlo, hlt, hper⟩
    · -- q is the last knot: its representative is the first knot
      refine ⟨xs.getD 0 0, 1, by rw [Int.cast_one, one_mul, sub_sub_cancel], le_refl _,
        hs.getD_lt_getD (i := 0) (by omega) (by omega), ?_⟩
      rw [hper, ← getElem_eq_getD0 xs _ (Nat.sub_lt h0 one_pos), ← getElem_eq_getD0 xs 0 h0,
        C02_knot xs ys ks (xs.length - 1) .no (by simp) hs hy hk hlen (by omega),
        C02_knot xs ys ks 0 .no (by simp) hs hy hk hlen h0, getElem_eq_getD0, getElem_eq_getD0, hends]
  · exact periodic_wrap xs ys ks q hs hin

/-- `S(q + k·P) = S(q)` for every integer `k` (needs the builder's check that the first and last data values
    are equal). -/
theorem C07_periodic (xs ys ks : List F) (q : F) (k : ℤ) (hs : StrictInc xs)
    (hy : ys.length = xs.length) (hk : ks.length = xs.length) (hlen : xs.length < 2 ^ 64)
    (hends : ys[0]'(by have := hs.1; omega) = ys[xs.length - 1]'(by have := hs.1; omega)) :
    splineInterp (V := F) (splineOf xs ys ks .periodic) xs ys
        (q + k * (xs[xs.length - 1]'(by have := hs.1; omega) - xs[0]'(by have := hs.1; omega))) =
      splineInterp (V := F) (splineOf xs ys ks .periodic) xs ys q := by
  simp only [getElem_eq_getD0] at hends ⊢
  obtain ⟨r1, k1, a1, b1, c1, d1⟩ := periodic_rep xs ys ks (q + k * _) hs hy hk hlen hends
  obtain ⟨r2, k2, a2, b2, c2, d2⟩ := periodic_rep xs ys ks q hs hy hk hlen hends
  rw [d1, d2, eq_of_sub_eq_int_mul (m := k - k1 + k2) b1 c1 b2 c2 (by rw [a1, a2]; push_cast; ring)]

/-- The periodic images of the range ends evaluate to the first (= last) data value. -/
theorem C07_ends (xs ys ks : List F) (k : ℤ) (hs : StrictInc xs)
    (hy : ys.length = xs.length) (hk : ks.length = xs.length) (hlen : xs.length < 2 ^ 64)
    (hends : ys[0]'(by have := hs.1; omega) = ys[xs.length - 1]'(by have := hs.1; omega)) :
    splineInterp (V := F) (splineOf xs ys ks .periodic) xs ys
        (xs[0]'(by have := hs.1; omega) +
          k * (xs[xs.length - 1]'(by have := hs.1; omega) - xs[0]'(by have := hs.1; omega))) =
      .ok (ys[0]'(by have := hs.1; omega)) := by
  have h0 : 0 < xs.length := by have := hs.1; omega
  rw [C07_periodic xs ys ks xs[0] k hs hy hk hlen hends, periodic_of_inRange xs ys ks xs[0] (hs.inRange h0)]
  exact C02_knot xs ys ks 0 .no (by simp) hs hy hk hlen h0

end

end NdInterp
