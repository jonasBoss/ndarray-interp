/-
C10 — `build()` accepts exactly the valid inputs and reports the rest as `BuilderError`.

Model: `validate1` / `validate2` (the validation chains of `Interp1DBuilder::build` /
`Interp2DBuilder::build` in source order, default axes of `…Builder::new` included: data without an
interpolation axis gets an empty default axis).
-/
import NdInterp.Model.Interp
import NdInterp.Props.C12

namespace NdInterp

section lawful
variable {α : Type} [LinearOrder α] [Cmp α] [LawfulCmp α] [NatCast α]

def AxisOK (xs : List α) : Prop := 2 ≤ xs.length ∧ AllPairs (· < ·) xs

noncomputable instance (xs : List α) : Decidable (AxisOK xs) := Classical.propDecidable _

theorem not_axisOK {xs : List α} (h : ¬ AxisOK xs) :
    ∃ m, monotonicProp xs = .ok m ∧ m ≠ .rising true := by
  obtain ⟨m, hm, _⟩ := C12_classify xs
  exact ⟨m, hm, fun e => h ((rising_strict_iff _).mp (e ▸ hm))⟩

/-- Closed form of the chain (here 1-D, below 2-D) over a NaN-free scalar type. -/
theorem C10_validate1_eq (minLen : Nat) (x : Option (List α)) (data : NdArr α) :
    validate1 minLen x data =
      (let xs := x.getD (defaultAxis (data.shape.headD 0))
       if data.shape.length < 1 then .error (.builder .shapeError)
       else if data.shape.headD 0 < minLen then .error (.builder .notEnoughData)
       else if ¬ AxisOK xs then .error (.builder .monotonic)
       else if xs.length ≠ data.shape.headD 0 then .error (.builder .shapeError)
       else .ok xs) := by
  unfold validate1
  simp only [bind, Except.bind, pure, Except.pure, throw, throwThe, MonadExceptOf.throw]
  by_cases h : AxisOK (x.getD (defaultAxis (data.shape.headD 0)))
  · simp only [(rising_strict_iff _).mpr h, h, not_true_eq_false, if_false]
  · obtain ⟨m, hm, hne⟩ := not_axisOK h
    simp only [hm, h, not_false_eq_true, if_true]

theorem C10_validate2_eq (minLen : Nat) (x y : Option (List α)) (data : NdArr α) :
    validate2 minLen x y data =
      (let xs := x.getD (defaultAxis (data.shape.headD 0))
       let ys := y.getD (defaultAxis ((data.shape.drop 1).headD 0))
       if data.shape.length < 2 then .error (.builder .shapeError)
       else if data.shape.headD 0 < minLen then .error (.builder .notEnoughData)
       else if (data.shape.drop 1).headD 0 < minLen then .error (.builder .notEnoughData)
       else if xs.length ≠ data.shape.headD 0 then .error (.builder .shapeError)
       else if ys.length ≠ (data.shape.drop 1).headD 0 then .error (.builder .shapeError)
       else if ¬ AxisOK xs then .error (.builder .monotonic)
       else if ¬ AxisOK ys then .error (.builder .monotonic)
       else .ok (xs, ys)) := by
  unfold validate2
  simp only [bind, Except.bind, pure, Except.pure, throw, throwThe, MonadExceptOf.throw]
  by_cases hx : AxisOK (x.getD (defaultAxis (data.shape.headD 0)))
  · simp only [(rising_strict_iff _).mpr hx, hx, not_true_eq_false, if_false]
    by_cases hy : AxisOK (y.getD (defaultAxis ((data.shape.drop 1).headD 0)))
    · simp only [(rising_strict_iff _).mpr hy, hy, not_true_eq_false, if_false]
    · obtain ⟨m, hm, hne⟩ := not_axisOK hy
      simp only [hm, hy, not_false_eq_true, if_true]
  · obtain ⟨m, hm, hne⟩ := not_axisOK hx
    simp only [hm, hx, not_false_eq_true, if_true]

/-! In closed form a chain is a nest of steps `if c then .error e else rest`; the two lemmas below
    read such a nest off step by step, so nothing that follows splits on the checks. -/

section guard
variable {β : Type} {c : Prop} [Decidable c] {e e' : Fault} {r : Except Fault β} {v : β}

theorem guard_eq_ok : (if c then .error e else r) = .ok v ↔ ¬ c ∧ r = .ok v := by
  split <;> simp [*]

theorem guard_eq_error :
    (if c then .error e else r) = .error e' ↔ c ∧ e = e' ∨ ¬ c ∧ r = .error e' := by
  split <;> simp [*]

end guard

def Valid1 (minLen : Nat) (x : Option (List α)) (data : NdArr α) : Prop :=
  1 ≤ data.shape.length ∧ minLen ≤ data.shape.headD 0 ∧
    AxisOK (x.getD (defaultAxis (data.shape.headD 0))) ∧
    (x.getD (defaultAxis (data.shape.headD 0))).length = data.shape.headD 0

theorem validate1_eq_ok (minLen : Nat) (x : Option (List α)) (data : NdArr α) (xs : List α) :
    validate1 minLen x data = .ok xs ↔
      Valid1 minLen x data ∧ xs = x.getD (defaultAxis (data.shape.headD 0)) := by
  simp only [C10_validate1_eq, guard_eq_ok, Valid1, Nat.not_lt, ne_eq, not_not, Except.ok.injEq,
    and_assoc, eq_comm (b := xs)]

/-- Validation succeeds iff the inputs are valid: enough dimensions, at least the strategy's `MINIMUM_DATA_LENGHT`
    points along the interpolated axis, axis length = data axis length, axis strictly increasing (an axis with
    fewer than two points is not). -/
theorem C10_iff_1d (minLen : Nat) (x : Option (List α)) (data : NdArr α) :
    (∃ xs, validate1 minLen x data = .ok xs) ↔ Valid1 minLen x data := by
  simp only [validate1_eq_ok, exists_and_left, exists_eq, and_true]

/-- the accepted axis is the one passed in (or the default index axis), unmodified -/
theorem C10_axis_unmodified (minLen : Nat) (x : Option (List α)) (data : NdArr α) (xs : List α)
    (h : validate1 minLen x data = .ok xs) : xs = x.getD (defaultAxis (data.shape.headD 0)) :=
  ((validate1_eq_ok ..).mp h).2

/-- A `BuilderError`'s kind names a requirement that is violated (1-D chain). -/
theorem C10_kind_1d (minLen : Nat) (x : Option (List α)) (data : NdArr α) (k : BKind)
    (h : validate1 minLen x data = .error (.builder k)) :
    (k = .shapeError ∧ (data.shape.length < 1 ∨
      (x.getD (defaultAxis (data.shape.headD 0))).length ≠ data.shape.headD 0)) ∨
    (k = .notEnoughData ∧ data.shape.headD 0 < minLen) ∨
    (k = .monotonic ∧ ¬ AxisOK (x.getD (defaultAxis (data.shape.headD 0)))) := by
  simp only [C10_validate1_eq, guard_eq_error, Fault.builder.injEq, reduceCtorEq, and_false,
    or_false] at h
  obtain ⟨h1, rfl⟩ | ⟨-, ⟨h2, rfl⟩ | ⟨-, ⟨h3, rfl⟩ | ⟨-, h4, rfl⟩⟩⟩ := h
  · exact .inl ⟨rfl, .inl h1⟩
  · exact .inr (.inl ⟨rfl, h2⟩)
  · exact .inr (.inr ⟨rfl, h3⟩)
  · exact .inl ⟨rfl, .inr h4⟩

/-- Validating never panics — rank-0 data, zero-length axes included. -/
theorem C10_no_panic (minLen : Nat) (x : Option (List α)) (data : NdArr α) :
    validate1 minLen x data ≠ .error .panic ∧ validate1 minLen x data ≠ .error .outOfBounds := by
  simp only [C10_validate1_eq, ne_eq, guard_eq_error, reduceCtorEq, and_false, or_false,
    not_false_eq_true, and_self]

def Valid2 (minLen : Nat) (x y : Option (List α)) (data : NdArr α) : Prop :=
  2 ≤ data.shape.length ∧ minLen ≤ data.shape.headD 0 ∧ minLen ≤ (data.shape.drop 1).headD 0 ∧
    (x.getD (defaultAxis (data.shape.headD 0))).length = data.shape.headD 0 ∧
    (y.getD (defaultAxis ((data.shape.drop 1).headD 0))).length = (data.shape.drop 1).headD 0 ∧
    AxisOK (x.getD (defaultAxis (data.shape.headD 0))) ∧
    AxisOK (y.getD (defaultAxis ((data.shape.drop 1).headD 0)))

theorem validate2_eq_ok (minLen : Nat) (x y : Option (List α)) (data : NdArr α)
    (r : List α × List α) :
    validate2 minLen x y data = .ok r ↔ Valid2 minLen x y data ∧
      r = (x.getD (defaultAxis (data.shape.headD 0)),
        y.getD (defaultAxis ((data.shape.drop 1).headD 0))) := by
  simp only [C10_validate2_eq, guard_eq_ok, Valid2, Nat.not_lt, ne_eq, not_not, Except.ok.injEq,
    and_assoc, eq_comm (b := r)]

/-- The same for `Interp2DBuilder::build`, x and y independently. -/
theorem C10_iff_2d (minLen : Nat) (x y : Option (List α)) (data : NdArr α) :
    (∃ r, validate2 minLen x y data = .ok r) ↔ Valid2 minLen x y data := by
  simp only [validate2_eq_ok, exists_and_left, exists_eq, and_true]

theorem C10_no_panic_2d (minLen : Nat) (x y : Option (List α)) (data : NdArr α) :
    validate2 minLen x y data ≠ .error .panic ∧ validate2 minLen x y data ≠ .error .outOfBounds := by
  simp only [C10_validate2_eq, ne_eq, guard_eq_error, reduceCtorEq, and_false, or_false,
    not_false_eq_true, and_self]

end lawful

section anycmp
variable {α : Type} [Cmp α] [NatCast α]

/-- No assumption on the comparisons: an axis with a consecutive pair that is neither `<` nor `==` (NaN) is
    never accepted. -/
theorem C10_nan (minLen : Nat) (x : Option (List α)) (data : NdArr α) (xs : List α)
    (h : validate1 minLen x data = .ok xs) :
    ¬ SomePair BadPair (x.getD (defaultAxis (data.shape.headD 0))) := by
  intro hbad
  simp only [validate1, bind, Except.bind, pure, Except.pure, throw, throwThe, MonadExceptOf.throw,
    guard_eq_ok] at h
  obtain ⟨-, -, h⟩ := h
  split at h
  · cases h
  · next heq => exact C12_nan _ hbad true heq
  · cases h

end anycmp

section strategies
variable {α : Type} [Cmp α] [Add α] [Sub α] [Mul α] [Div α] [Neg α] [NatCast α]
  [ToUsize α] [RemEuclid α]

/-- `build()` with Linear succeeds iff validation (minimum 2) does. -/
theorem C10_linear (x : Option (List α)) (data : NdArr α) (ext : Bool) :
    build1 x data (.linear ext) =
      (match validate1 2 x data with
       | .error e => .error e
       | .ok xs => .ok { xs := xs, data := data, strat := .linear ext }) := by
  unfold build1 buildCustom1 builtin1
  simp only [Strat1Spec.minLen, bind, Except.bind, pure, Except.pure]
  cases validate1 2 x data <;> rfl

/-- `build()` with Bilinear succeeds iff validation (minimum 2) does. -/
theorem C10_bilinear (x y : Option (List α)) (data : NdArr α) (ext : Bool) :
    build2 x y data ext =
      (match validate2 2 x y data with
       | .error e => .error e
       | .ok (xs, ys) => .ok { xs := xs, ys := ys, data := data, ext := ext }) := by
  unfold build2 buildCustom2
  cases validate2 2 x y data <;> rfl

/-- CubicSpline: validation (minimum 3) first, then the strategy's own `build`, whose error (boundary-array
    shape, periodic ends) is returned unchanged. -/
theorem C10_spline (x : Option (List α)) (data : NdArr α) (ext : Bool) (bc : BoundaryCondition α) :
    build1 x data (.spline ext bc) =
      (match validate1 3 x data with
       | .error e => .error e
       | .ok xs =>
         match splineBuild ext bc xs data with
         | .error e => .error e
         | .ok s => .ok { xs := xs, data := data, strat := .spline s }) := by
  unfold build1 buildCustom1 builtin1
  simp only [Strat1Spec.minLen, bind, Except.bind, pure, Except.pure]
  cases validate1 3 x data with
  | error e => rfl
  | ok xs =>
    simp only []
    cases splineBuild ext bc xs data <;> rfl

/-- A wrongly shaped per-lane boundary array is a `ShapeError`. -/
theorem C10_spline_bounds_shape (ext : Bool) (bshape : List Nat) (bounds : List (RowBoundary α))
    (xs : List α) (data : NdArr α) (h : bshape ≠ 1 :: data.shape.drop 1) :
    splineBuild ext (.individual bshape bounds) xs data = .error (.builder .shapeError) := by
  unfold splineBuild
  simp only [bind, Except.bind, throw, throwThe, MonadExceptOf.throw, ne_eq, h, not_false_eq_true, if_true]

end strategies

end NdInterp
