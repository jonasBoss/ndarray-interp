/-
C07 — what "up to rounding of the wrapped argument" amounts to.

Outside the data range the periodic spline is evaluated at the wrapped argument `w = x₀ + (q − x₀) mod P`, which in floating point
is computed with rounding (`q − x₀` alone loses `u·|q − x₀|`, many periods away that is a large part of an interval).  The value
returned is the segment expression at the *rounded* argument; how far that can be from the value at the exact wrapped argument is a
Lipschitz statement about one segment.  It bounds the float result against the exact periodic extension whenever the rounded and the
exact wrapped argument fall into the same interval; across a knot the spline is C² (C02), across the period boundary it is C² by the
periodic end conditions (C03_periodic), so the same estimate holds piecewise.
The magnitude of the argument error itself (`rem_euclid` on floats) is not modelled — trusted base, see `ASSUMPTIONS` in `tools/props/c07.py`.
-/
import NdInterp.Props.C02Fl

namespace NdInterp

section
variable {F : Type} [Field F] [LinearOrder F] [IsStrictOrderedRing F]

/-- the divided difference of `t²(1−t)` on `[0,1]²`: it is `t(1−t) + s(1−s) − ts`, and 1 minus it is `(1−t)(1−s) + t² + s²` -/
private theorem g2_bound {t s : F} (ht0 : 0 ≤ t) (ht1 : t ≤ 1) (hs0 : 0 ≤ s) (hs1 : s ≤ 1) :
    |(t + s) - (t ^ 2 + t * s + s ^ 2)| ≤ 1 := by
  have h1 := mul_nonneg ht0 (sub_nonneg.mpr ht1)
  have h2 := mul_nonneg hs0 (sub_nonneg.mpr hs1)
  have h3 := mul_le_one₀ ht1 hs0 hs1
  have h4 := mul_nonneg (sub_nonneg.mpr ht1) (sub_nonneg.mpr hs1)
  have h5 := mul_nonneg ht0 ht0
  have h6 := mul_nonneg hs0 hs0
  rw [abs_le]
  constructor <;> linarith

/-- the divided difference of `t(1−t)²` is that of `t²(1−t)` at the mirrored points, up to sign -/
private theorem g1_bound {t s : F} (ht0 : 0 ≤ t) (ht1 : t ≤ 1) (hs0 : 0 ≤ s) (hs1 : s ≤ 1) :
    |1 - 2 * (t + s) + (t ^ 2 + t * s + s ^ 2)| ≤ 1 := by
  have := g2_bound (sub_nonneg.mpr ht1) (sub_le_self 1 ht0) (sub_nonneg.mpr hs1) (sub_le_self 1 hs0)
  rwa [← abs_neg, show -((1 - t + (1 - s)) - ((1 - t) ^ 2 + (1 - t) * (1 - s) + (1 - s) ^ 2)) =
    1 - 2 * (t + s) + (t ^ 2 + t * s + s ^ 2) by ring] at this

/-- `x`, `x'` in the same interval; `splEvalExact` is the segment expression of `CubicSplineStrategy::interp_into`
    (`C02_eval_exact_is_model`). -/
theorem C07_segment_lipschitz (xl xr yl yr a b x x' : F) (hx : xl < xr)
    (h1 : xl ≤ x) (h2 : x ≤ xr) (h1' : xl ≤ x') (h2' : x' ≤ xr) :
    |splEvalExact xl xr yl yr a b x - splEvalExact xl xr yl yr a b x'| ≤
      |x - x'| / (xr - xl) * (|yr - yl| + |a| + |b|) := by
  have hd : 0 < xr - xl := sub_pos.mpr hx
  obtain ⟨ht0, ht1⟩ := unit_coord hx h1 h2
  obtain ⟨hs0, hs1⟩ := unit_coord hx h1' h2'
  unfold splEvalExact
  have hts : |x - x'| / (xr - xl) = |(x - xl) / (xr - xl) - (x' - xl) / (xr - xl)| := by
    rw [← sub_div, sub_sub_sub_cancel_right, abs_div, abs_of_pos hd]
  rw [hts]
  set t := (x - xl) / (xr - xl)
  set s := (x' - xl) / (xr - xl)
  have e : (1 - t) * yl + t * yr + t * (1 - t) * (a * (1 - t) + b * t) - ((1 - s) * yl + s * yr + s * (1 - s) * (a * (1 - s) + b * s))
      = (t - s) * ((yr - yl) + a * (1 - 2 * (t + s) + (t ^ 2 + t * s + s ^ 2)) + b * ((t + s) - (t ^ 2 + t * s + s ^ 2))) := by ring
  rw [e, abs_mul]
  refine mul_le_mul_of_nonneg_left ((abs_add_three _ _ _).trans ?_) (abs_nonneg _)
  rw [abs_mul, abs_mul]
  have g1 := mul_le_mul_of_nonneg_left (g1_bound ht0 ht1 hs0 hs1) (abs_nonneg a)
  have g2 := mul_le_mul_of_nonneg_left (g2_bound ht0 ht1 hs0 hs1) (abs_nonneg b)
  linarith

/-- The rounded evaluation at a (rounded) wrapped argument `x'` against the exact value at the exact wrapped argument `x`, both in
    the same interval: the evaluation's own rounding (`C02_eval_rounding`) plus the effect of the argument error. -/
theorem C07_wrapped_rounding (xl xr yl yr a b x x' u M d1 d2 d3 d4 d5 d6 d7 d8 d9 d10 d11 d12 d13 : F)
    (hx : xl < xr) (h1 : xl ≤ x) (h2 : x ≤ xr) (h1' : xl ≤ x') (h2' : x' ≤ xr) (hu0 : 0 ≤ u) (hu : u ≤ 1/16)
    (e1 : |d1| ≤ u) (e2 : |d2| ≤ u) (e3 : |d3| ≤ u) (e4 : |d4| ≤ u) (e5 : |d5| ≤ u) (e6 : |d6| ≤ u) (e7 : |d7| ≤ u)
    (e8 : |d8| ≤ u) (e9 : |d9| ≤ u) (e10 : |d10| ≤ u) (e11 : |d11| ≤ u) (e12 : |d12| ≤ u) (e13 : |d13| ≤ u)
    (hyl : |yl| ≤ M) (hyr : |yr| ≤ M) (ha : |a| ≤ M) (hb : |b| ≤ M) :
    |splEvalFl xl xr yl yr a b x' d1 d2 d3 d4 d5 d6 d7 d8 d9 d10 d11 d12 d13 - splEvalExact xl xr yl yr a b x| ≤
      102 * u * M + |x' - x| / (xr - xl) * (|yr - yl| + |a| + |b|) :=
  (abs_sub_le _ _ _).trans (add_le_add
    (C02_eval_rounding xl xr yl yr a b x' u M d1 d2 d3 d4 d5 d6 d7 d8 d9 d10 d11 d12 d13 hx h1' h2' hu0 hu
      e1 e2 e3 e4 e5 e6 e7 e8 e9 e10 e11 e12 e13 hyl hyr ha hb)
    (C07_segment_lipschitz xl xr yl yr a b x' x hx h1' h2' h1 h2))

/-- non-vacuity, and the bound is attained: the segment with `y = (0, 1)`, `a = b = 0` is the line of slope `1/h` -/
example : |splEvalExact (0 : ℚ) 2 0 1 0 0 (3/2) - splEvalExact 0 2 0 1 0 0 (1/2)| = |(3/2 : ℚ) - 1/2| / (2 - 0) * (|(1 : ℚ) - 0| + |0| + |0|) := by
  norm_num [splEvalExact]

end

end NdInterp
