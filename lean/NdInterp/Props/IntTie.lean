/-
The property theorems for integer element types, instantiated at `Z64` — the model of Rust's `i64`
(truncating division, `usize` cast failing for negatives) **with the instances the compiled driver
executes** for protocol records of scalar type `I`.
-/
import NdInterp.Props.C12
import NdInterp.Lemmas.LinearCore
import Mathlib.Tactic.Ring

namespace NdInterp

instance : LinearOrder Z64 :=
  LinearOrder.lift' Z64.val (fun a b h => by cases a; cases b; simp_all)

theorem Z64.lt_def (a b : Z64) : a < b ↔ a.val < b.val := Iff.rfl
theorem Z64.le_def (a b : Z64) : a ≤ b ↔ a.val ≤ b.val := Iff.rfl

instance : LawfulCmp Z64 where
  lt_iff a b := by simp [Cmp.lt, Z64.lt_def]
  le_iff a b := by simp [Cmp.le, Z64.le_def]
  eq_iff a b := by
    simp only [Cmp.eq, decide_eq_true_eq]
    constructor
    · intro h; cases a; cases b; simp_all
    · intro h; rw [h]

/-- `monotonic_prop` classifies every integer vector correctly. -/
theorem C12_iff_I (xs : List Z64) (m : Monotonic) :
    monotonicProp xs = .ok m ↔ Class Z64 xs m := C12_iff xs m

theorem strictInc_gap (xs : List Z64) (hs : StrictInc xs) :
    ∀ k i (h : i + k < xs.length), (xs[i]'(by omega)).val + k ≤ (xs[i + k]).val := by
  intro k
  induction k with
  | zero => intro i h; simp
  | succ k ih =>
    intro i h
    have a := ih i (by omega)
    have b := (Z64.lt_def _ _).mp (hs.2 (i + k) (i + (k + 1)) (by omega) h)
    omega

/-- `get_lower_index` returns the bracket on every strictly increasing integer axis: the integer
    O(1) guess `(n-1)/(x[n-1]-x[0]) * (q-x[0])` (truncating) is `q-x[0]` on a unit-spaced axis and
    `0` otherwise, in both cases an index `≤ n-2`. -/
theorem C11_exact_I (xs : List Z64) (q : Z64) (hs : StrictInc xs) :
    ∃ i, lowerIndex xs q = .ok i ∧ Bracket xs q i := by
  apply C11_of_guess xs q hs
  intro h0 c1 c2
  have hlast : xs.length - 1 < xs.length := by omega
  have hgap := strictInc_gap xs hs (xs.length - 1) 0 (by omega)
  simp only [Nat.zero_add] at hgap
  have c1' := (Z64.lt_def _ _).mp c1
  have c2' := (Z64.lt_def _ _).mp c2
  unfold indexGuess
  simp only [List.getElem?_eq_getElem h0, List.getElem?_eq_getElem hlast]
  set x0 := (xs[0]).val
  set xl := (xs[xs.length - 1]).val
  have hv : (calcFrac xs[0] ((0 : Nat) : Z64) xs[xs.length - 1] ((xs.length - 1 : Nat) : Z64) q).val =
      Int.tdiv (((xs.length - 1 : Nat) : Int) - 0) (xl - x0) * (q.val - x0) + 0 := rfl
  by_cases hu : xl - x0 = ((xs.length - 1 : Nat) : Int)
  · -- unit spacing: slope 1
    have hs1 : Int.tdiv (((xs.length - 1 : Nat) : Int) - 0) (xl - x0) = 1 := by
      rw [hu, Int.sub_zero]
      exact Int.tdiv_self (by omega)
    refine ⟨(q.val - x0).toNat, ?_, ?_⟩
    · show (if (calcFrac _ _ _ _ q).val < 0 then none else some (calcFrac _ _ _ _ q).val.toNat) = _
      rw [hv, hs1]
      have : ¬ (1 * (q.val - x0) + 0 < 0) := by omega
      simp only [this, if_false]
      congr 2
      omega
    · omega
  · -- wider spacing: slope 0
    have hs0 : Int.tdiv (((xs.length - 1 : Nat) : Int) - 0) (xl - x0) = 0 := by
      rw [Int.sub_zero]
      exact Int.tdiv_eq_zero_of_lt (by omega) (by omega)
    refine ⟨0, ?_, by omega⟩
    show (if (calcFrac _ _ _ _ q).val < 0 then none else some (calcFrac _ _ _ _ q).val.toNat) = _
    rw [hv, hs0]
    simp

/-- `calc_frac` at `i64` reproduces straight lines with integer coefficients: the truncating
    secant slope is exact -/
theorem calcFrac_affine_I (a b : Int) (x1 x2 y1 y2 q : Z64) (hx : x1.val < x2.val)
    (h1 : y1.val = a + b * x1.val) (h2 : y2.val = a + b * x2.val) :
    calcFrac x1 y1 x2 y2 q = ⟨a + b * q.val⟩ := by
  show (⟨Int.tdiv (y2.val - y1.val) (x2.val - x1.val) * (q.val - x1.val) + y1.val⟩ : Z64) = _
  rw [h1, h2, show a + b * x2.val - (a + b * x1.val) = b * (x2.val - x1.val) by ring,
    Int.mul_tdiv_cancel _ (by omega)]
  congr 1
  ring

/-- On a strictly increasing `i64` axis, data sampled from `a + b·x` with integer `a`, `b` is
    reproduced exactly by Linear — every query the strategy answers (in range, or anywhere with
    extrapolation) evaluates to `a + b·q`. -/
theorem C16_linear_I (ext : Bool) (xs ys : List Z64) (q : Z64) (a b : Int) (hs : StrictInc xs)
    (hl : ys.length = xs.length)
    (hy : ∀ i (h : i < xs.length), (ys[i]'(by omega)).val = a + b * (xs[i]).val)
    (hans : ext = true ∨ InRange xs q) :
    linearInterp (V := Z64) ext xs ys q = .ok ⟨a + b * q.val⟩ := by
  obtain ⟨i, hi, hb⟩ := C11_exact_I xs q hs
  have hlt := hb.lt_len
  rw [linearInterp_of_index ext ys hl hlt hi, if_pos hans]
  exact congrArg _ (calcFrac_affine_I a b _ _ _ _ q ((Z64.lt_def _ _).mp (hs.lt_succ hlt))
    (hy i (by omega)) (hy (i + 1) hlt))

/-! non-vacuity -/
example : lowerIndex [(⟨0⟩ : Z64), ⟨1⟩, ⟨2⟩, ⟨5⟩] ⟨4⟩ = .ok 2 := by decide +kernel
example : monotonicProp [(⟨3⟩ : Z64), ⟨3⟩, ⟨9⟩] = .ok (.rising false) := by decide +kernel

end NdInterp
