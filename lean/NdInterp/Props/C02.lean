/-
C02 — the cubic spline passes through the data and is a C² piecewise cubic.

Single-lane statements for every non-periodic boundary pair `(left, right)` — i.e. for NotAKnot, Natural,
Clamped and every Mixed / per-lane Individual selection (`C08` carries them to every lane of n-dimensional
data); the slopes of the periodic boundary are treated in `Props/C03`, its evaluation in `Props/C07`.  Values and
first derivatives at the knots are those of the Hermite pieces whatever the slopes; only `C02_C2` uses that the
slopes solve the linear system.  Also here: the spline's part of C05 and C06.
-/
import NdInterp.Lemmas.SplineChar

namespace NdInterp

open Polynomial

section
variable {F : Type} [Field F] [LinearOrder F] [IsStrictOrderedRing F] [Cmp F] [LawfulCmp F]
  [ToUsize F] [LawfulToUsize F] [RemEuclid F]

/-- On a strictly increasing axis with ≥ 3 points `solve_for_k` never fails (all Thomas pivots are positive)
    and returns one slope per knot, for every boundary pair. -/
theorem C02_build (xs ys : List F) (hs : StrictInc xs) (hy : ys.length = xs.length)
    (hn : 3 ≤ xs.length) (left right : SingleBoundary F) :
    ∃ ks, solveForK (V := F) xs ys (.mixed left right) = .ok ks ∧ ks.length = xs.length := by
  obtain ⟨ks, h1, h2, _, _⟩ := solveForK_spec xs ys hy hn hs left right
  exact ⟨ks, h1, h2⟩

/-- the whole-data-set boundaries are the corresponding pairs -/
theorem C02_build_names (xs ys : List F) :
    solveForK (V := F) xs ys .natural = solveForK (V := F) xs ys (.mixed .natural .natural) ∧
    solveForK (V := F) xs ys .clamped = solveForK (V := F) xs ys (.mixed .clamped .clamped) ∧
    solveForK (V := F) xs ys .notAKnot = solveForK (V := F) xs ys (.mixed .notAKnot .notAKnot) :=
  ⟨rfl, rfl, rfl⟩

/-- An answered query is the value of the cubic piece of its bracketing interval. -/
theorem C02_eval (xs ys ks : List F) (q : F) (extr : Extrapolate) (hne : extr ≠ .periodic)
    (hs : StrictInc xs) (hy : ys.length = xs.length) (hk : ks.length = xs.length)
    (hlen : xs.length < 2 ^ 64) (hok : extr = .yes ∨ InRange xs q) :
    ∃ i, ∃ (hb : Bracket xs q i),
      splineInterp (V := F) (splineOf xs ys ks extr) xs ys q =
        .ok ((pieceAt xs ys ks i hb.lt_len hy hk).eval q) := by
  obtain ⟨i, hb⟩ := exists_bracket xs q hs hlen
  exact ⟨i, hb, by rw [splineInterp_of_bracket ys ks extr hne hs hy hk hlen hb, if_pos hok]⟩

/-- On each interval the interpolant is one polynomial of degree ≤ 3, whose derivatives are `Cubic.d1`,
    `Cubic.d2`, `Cubic.d3` of the piece. -/
theorem C02_cubic (xs ys ks : List F) (hy : ys.length = xs.length) (hk : ks.length = xs.length)
    (i : Nat) (hi : i + 1 < xs.length) :
    ∃ P : F[X], P.natDegree ≤ 3 ∧
      (∀ q, P.eval q = (pieceAt xs ys ks i hi hy hk).eval q) ∧
      (∀ q, (derivative P).eval q = (pieceAt xs ys ks i hi hy hk).d1 q) ∧
      (∀ q, (derivative^[2] P).eval q = (pieceAt xs ys ks i hi hy hk).d2 q) ∧
      (∀ q, (derivative^[3] P).eval q = (pieceAt xs ys ks i hi hy hk).d3) :=
  ⟨(pieceAt xs ys ks i hi hy hk).toPoly, Cubic.natDegree_le _, Cubic.eval_toPoly _, Cubic.d1_toPoly _,
    Cubic.d2_toPoly _, Cubic.d3_toPoly _⟩

omit [Cmp F] [LawfulCmp F] [ToUsize F] [LawfulToUsize F] [RemEuclid F] in
/-- Every piece takes the data values at both ends of its interval. -/
theorem C02_through (xs ys ks : List F) (hs : StrictInc xs) (hy : ys.length = xs.length)
    (hk : ks.length = xs.length) (i : Nat) (hi : i + 1 < xs.length) :
    (pieceAt xs ys ks i hi hy hk).eval (xs[i]'(by omega)) = ys[i]'(by omega) ∧
    (pieceAt xs ys ks i hi hy hk).eval xs[i + 1] = ys[i + 1]'(by omega) :=
  ⟨piece_eval_left _ _ _ _ _ _,
    piece_eval_right _ _ _ _ _ _ (hs.sub_ne_zero (Nat.lt_succ_self i) hi)⟩

/-- The interpolator returns `ys[k]` at `xs[k]`. -/
theorem C02_knot (xs ys ks : List F) (k : Nat) (extr : Extrapolate) (hne : extr ≠ .periodic)
    (hs : StrictInc xs) (hy : ys.length = xs.length) (hk : ks.length = xs.length)
    (hlen : xs.length < 2 ^ 64) (hkn : k < xs.length) :
    splineInterp (V := F) (splineOf xs ys ks extr) xs ys xs[k] = .ok (ys[k]'(by omega)) := by
  obtain ⟨i, hb, h⟩ := C02_eval xs ys ks xs[k] extr hne hs hy hk hlen (Or.inr (hs.inRange hkn))
  rw [h]
  obtain ⟨t1, t2⟩ := C02_through xs ys ks hs hy hk i hb.lt_len
  rcases knot_bracket hs hkn hb with rfl | rfl
  · rw [t1]
  · rw [t2]

omit [Cmp F] [LawfulCmp F] [ToUsize F] [LawfulToUsize F] [RemEuclid F] in
/-- The first derivative is continuous at every interior knot: both one-sided derivatives are the slope
    `ks[j+1]`. -/
theorem C02_C1 (xs ys ks : List F) (hs : StrictInc xs) (hy : ys.length = xs.length)
    (hk : ks.length = xs.length) (j : Nat) (h : j + 2 < xs.length) :
    (pc xs ys ks hy hk j (j + 1) (by omega) (by omega)).d1 xs[j + 1] = ks[j + 1]'(by omega) ∧
    (pc xs ys ks hy hk (j + 1) (j + 2) (by omega) h).d1 xs[j + 1] = ks[j + 1]'(by omega) :=
  ⟨piece_d1_right _ _ _ _ _ _ (hs.sub_ne_zero (Nat.lt_succ_self j) (by omega)),
    piece_d1_left _ _ _ _ _ _⟩

/-- The slopes `solve_for_k` returns make the second derivative continuous at every interior knot, for every
    boundary pair. -/
theorem C02_C2 (xs ys : List F) (hs : StrictInc xs) (hy : ys.length = xs.length)
    (hn : 3 ≤ xs.length) (left right : SingleBoundary F)
    (hpar : ¬ (xs.length = 3 ∧ isNakPair left right = true)) :
    ∃ ks, ∃ (hk : ks.length = xs.length),
      solveForK (V := F) xs ys (.mixed left right) = .ok ks ∧ C2Cond xs ys ks hy hk := by
  obtain ⟨ks, h, hk, -⟩ := solveForK_spec xs ys hy hn hs left right
  exact ⟨ks, hk, h, ((solveForK_iff xs ys ks hs hy hn left right hpar hk).mp h).1⟩

/-- Without extrapolation the spline answers exactly the closed range. -/
theorem C05_spline (xs ys ks : List F) (q : F) (hs : StrictInc xs) (hy : ys.length = xs.length)
    (hk : ks.length = xs.length) (hlen : xs.length < 2 ^ 64) :
    (InRange xs q → ∃ v, splineInterp (V := F) (splineOf xs ys ks .no) xs ys q = .ok v) ∧
    (¬ InRange xs q → splineInterp (V := F) (splineOf xs ys ks .no) xs ys q = .error .outOfBounds) := by
  obtain ⟨i, hb⟩ := exists_bracket xs q hs hlen
  rw [splineInterp_of_bracket ys ks .no nofun hs hy hk hlen hb]
  exact ⟨fun hin => ⟨_, if_pos (.inr hin)⟩, fun hout => if_neg (by simp [hout])⟩

/-- With `Extrapolate::Yes` every query is answered. -/
theorem C06_spline_never_rejects (xs ys ks : List F) (q : F) (hs : StrictInc xs)
    (hy : ys.length = xs.length) (hk : ks.length = xs.length) (hlen : xs.length < 2 ^ 64) :
    ∃ v, splineInterp (V := F) (splineOf xs ys ks .yes) xs ys q = .ok v := by
  obtain ⟨i, hb⟩ := exists_bracket xs q hs hlen
  exact ⟨_, by rw [splineInterp_of_bracket ys ks .yes nofun hs hy hk hlen hb, if_pos (.inl rfl)]⟩

/-- At or left of the first knot the value is that of the cubic piece of the first interval at `q`. -/
theorem C06_spline_left (xs ys ks : List F) (q : F) (hs : StrictInc xs)
    (hy : ys.length = xs.length) (hk : ks.length = xs.length) (hlen : xs.length < 2 ^ 64)
    (hq : q ≤ xs[0]'(by have := hs.1; omega)) :
    splineInterp (V := F) (splineOf xs ys ks .yes) xs ys q =
      .ok ((pieceAt xs ys ks 0 (by have := hs.1; omega) hy hk).eval q) := by
  obtain ⟨i, hb⟩ := exists_bracket xs q hs hlen
  cases hb.low (by have := hs.1; omega) hq
  rw [splineInterp_of_bracket ys ks .yes nofun hs hy hk hlen hb, if_pos (.inl rfl)]

/-- At or right of the last knot, the cubic piece of the last interval. -/
theorem C06_spline_right (xs ys ks : List F) (q : F) (hs : StrictInc xs)
    (hy : ys.length = xs.length) (hk : ks.length = xs.length) (hlen : xs.length < 2 ^ 64)
    (hq : xs[xs.length - 1]'(by have := hs.1; omega) ≤ q) :
    splineInterp (V := F) (splineOf xs ys ks .yes) xs ys q =
      .ok ((pieceAt xs ys ks (xs.length - 2) (by have := hs.1; omega) hy hk).eval q) := by
  obtain ⟨i, hb⟩ := exists_bracket xs q hs hlen
  cases hb.high (by have := hs.1; omega) hq
  rw [splineInterp_of_bracket ys ks .yes nofun hs hy hk hlen hb, if_pos (.inl rfl)]

end

/-- Arbitrary scalar operations (bit-identity): when the closed-range test passes, evaluation with
    `Extrapolate::Yes` and `Extrapolate::No` is the same term. -/
theorem C06_spline_inrange_same {α V : Type} [Cmp α] [Add α] [Sub α] [Mul α] [Div α] [Neg α]
    [NatCast α] [ToUsize α] [RemEuclid α] [Lanes α V]
    (a b : List V) (xs : List α) (ys : List V) (q : α) (h : isInRange xs q = .ok true) :
    splineInterp { a := a, b := b, extrapolate := .yes } xs ys q =
      splineInterp { a := a, b := b, extrapolate := .no } xs ys q := by
  unfold splineInterp
  simp only [h, bind, Except.bind]
  rfl

end NdInterp
