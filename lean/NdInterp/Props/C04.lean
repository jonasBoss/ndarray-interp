/-
C04 — Bilinear 2-D interpolation returns the exact bilinear blend of the cell; its consequences
(nodes, grid lines, transposition) are exact here, the rounding is in `Props/C04Fl`.
-/
import NdInterp.Props.C01

namespace NdInterp

section
variable {α V : Type} [Field α] [LinearOrder α] [IsStrictOrderedRing α]
  [Cmp α] [LawfulCmp α] [ToUsize α] [LawfulToUsize α] [Lanes α V]

/-- Any lane structure: on an in-grid query the call succeeds and is the three nested `calc_frac`
    of the four corner rows of the cell of `(x, y)`. -/
theorem C04_struct (ext : Bool) (xs ys : List α) (zs : List (List V)) (x y : α)
    (hsx : StrictInc xs) (hsy : StrictInc ys) (hg : GridOK zs xs.length ys.length)
    (hlx : xs.length < 2 ^ 64) (hly : ys.length < 2 ^ 64)
    (hinx : InRange xs x) (hiny : InRange ys y) :
    ∃ i j, ∃ (hi : Bracket xs x i) (hj : Bracket ys y j), ∃ r1 r2 z11 z12 z21 z22,
      zs[i]? = some r1 ∧ zs[i + 1]? = some r2 ∧
      r1[j]? = some z11 ∧ r1[j + 1]? = some z12 ∧ r2[j]? = some z21 ∧ r2[j + 1]? = some z22 ∧
      bilinearInterp ext xs ys zs x y =
        .ok (Lanes.map4 (fun z11 z12 z21 z22 =>
          let z1 := calcFrac (xs[i]'(by have := hi.lt_len; omega)) z11 (xs[i + 1]'hi.lt_len) z21 x
          let z2 := calcFrac (xs[i]'(by have := hi.lt_len; omega)) z12 (xs[i + 1]'hi.lt_len) z22 x
          calcFrac (ys[j]'(by have := hj.lt_len; omega)) z1 (ys[j + 1]'hj.lt_len) z2 y)
          z11 z12 z21 z22) := by
  obtain ⟨i, j, hi, hj, r1, r2, z11, z12, z21, z22, e1, e2, e3, e4, e5, e6, h⟩ :=
    bilinearInterp_eq ext xs ys zs x y hsx hsy hg hlx hly
  refine ⟨i, j, hi, hj, r1, r2, z11, z12, z21, z22, e1, e2, e3, e4, e5, e6, ?_⟩
  rw [h, if_pos (Or.inr hinx), if_pos (Or.inr hiny)]; rfl

/-- One lane: the value is the bilinear blend of the four grid values surrounding the query. -/
theorem C04_blend (ext : Bool) (xs ys : List α) (zs : List (List α)) (x y : α)
    (hsx : StrictInc xs) (hsy : StrictInc ys) (hg : GridOK zs xs.length ys.length)
    (hlx : xs.length < 2 ^ 64) (hly : ys.length < 2 ^ 64)
    (hinx : InRange xs x) (hiny : InRange ys y) :
    ∃ i j, ∃ (hi : Bracket xs x i) (hj : Bracket ys y j), ∃ r1 r2 z11 z12 z21 z22,
      zs[i]? = some r1 ∧ zs[i + 1]? = some r2 ∧
      r1[j]? = some z11 ∧ r1[j + 1]? = some z12 ∧ r2[j]? = some z21 ∧ r2[j + 1]? = some z22 ∧
      let s := (x - xs[i]'(by have := hi.lt_len; omega)) /
        (xs[i + 1]'hi.lt_len - xs[i]'(by have := hi.lt_len; omega))
      let t := (y - ys[j]'(by have := hj.lt_len; omega)) /
        (ys[j + 1]'hj.lt_len - ys[j]'(by have := hj.lt_len; omega))
      bilinearInterp (V := α) ext xs ys zs x y =
        .ok (z11 * (1 - s) * (1 - t) + z21 * s * (1 - t) + z12 * (1 - s) * t + z22 * s * t) := by
  obtain ⟨i, j, hi, hj, r1, r2, z11, z12, z21, z22, e1, e2, e3, e4, e5, e6, h⟩ :=
    C04_struct (V := α) ext xs ys zs x y hsx hsy hg hlx hly hinx hiny
  refine ⟨i, j, hi, hj, r1, r2, z11, z12, z21, z22, e1, e2, e3, e4, e5, e6, ?_⟩
  rw [h]
  simp only [Lanes.map4]
  rw [blend_eq]

/-- On the grid line `x = xs[a]` Bilinear is Linear along `y` on row `a` (for every `y`, in range,
    rejected or extrapolated alike). -/
theorem C04_gridline (ext : Bool) (xs ys : List α) (zs : List (List α)) (a : Nat) (y : α)
    (row : List α)
    (hsx : StrictInc xs) (hsy : StrictInc ys) (hg : GridOK zs xs.length ys.length)
    (hlx : xs.length < 2 ^ 64) (hly : ys.length < 2 ^ 64)
    (ha : a < xs.length) (hrow : zs[a]? = some row) :
    bilinearInterp (V := α) ext xs ys zs xs[a] y = linearInterp (V := α) ext ys row y := by
  have hrl : row.length = ys.length :=
    hg.2 row (List.mem_of_getElem? hrow)
  obtain ⟨i, hi⟩ := exists_bracket xs xs[a] hsx hlx
  obtain ⟨j, hj⟩ := exists_bracket ys y hsy hly
  have hil := hi.lt_len
  have hjl := hj.lt_len
  obtain ⟨r1, r2, z11, z12, z21, z22, e1, e2, e3, e4, e5, e6⟩ := hg.cell hil hjl
  rw [bilinearInterp_of_cell ext hsx hsy hlx hly hi hj e1 e2 e3 e4 e5 e6,
    linearInterp_of_bracket ext row hsy hrl hly hj, if_pos (Or.inr (hsx.inRange ha))]
  split
  · congr 1
    have hd : xs[i] ≠ xs[i + 1] := (hsx.lt_succ hil).ne
    simp only [cellPiece, linePiece, Lanes.map4, Lanes.map2]
    -- the row of the grid line is one of the two rows of the cell
    rcases knot_bracket hsx ha hi with rfl | rfl
    · cases hrow.symm.trans e1
      rw [(List.getElem_eq_iff _).mpr e3, (List.getElem_eq_iff _).mpr e4, calcFrac_left, calcFrac_left]
    · cases hrow.symm.trans e2
      rw [(List.getElem_eq_iff _).mpr e5, (List.getElem_eq_iff _).mpr e6, calcFrac_right _ _ _ _ hd,
        calcFrac_right _ _ _ _ hd]
  · rfl

/-- Grid nodes are reproduced. -/
theorem C04_node (ext : Bool) (xs ys : List α) (zs : List (List α)) (a b : Nat) (row : List α)
    (hsx : StrictInc xs) (hsy : StrictInc ys) (hg : GridOK zs xs.length ys.length)
    (hlx : xs.length < 2 ^ 64) (hly : ys.length < 2 ^ 64)
    (ha : a < xs.length) (hb : b < ys.length) (hrow : zs[a]? = some row)
    (hrl : row.length = ys.length) :
    bilinearInterp (V := α) ext xs ys zs xs[a] ys[b] = .ok (row[b]'(by omega)) := by
  rw [C04_gridline ext xs ys zs a ys[b] row hsx hsy hg hlx hly ha hrow]
  exact C01_knot ext ys row b hsy hrl hly hb

/-- Transposed data, swapped axes, swapped coordinates: the same value. -/
theorem C04_transpose (ext : Bool) (xs ys : List α) (zs zsT : List (List α)) (x y : α)
    (hsx : StrictInc xs) (hsy : StrictInc ys)
    (hg : GridOK zs xs.length ys.length) (hgT : GridOK zsT ys.length xs.length)
    (hT : ∀ (i j : Nat) (r : List α) (z : α), zs[i]? = some r → r[j]? = some z →
      ∃ rT : List α, zsT[j]? = some rT ∧ rT[i]? = some z)
    (hlx : xs.length < 2 ^ 64) (hly : ys.length < 2 ^ 64) :
    bilinearInterp (V := α) ext ys xs zsT y x = bilinearInterp (V := α) ext xs ys zs x y := by
  obtain ⟨i, hi⟩ := exists_bracket xs x hsx hlx
  obtain ⟨j, hj⟩ := exists_bracket ys y hsy hly
  obtain ⟨r1, r2, z11, z12, z21, z22, e1, e2, e3, e4, e5, e6⟩ := hg.cell hi.lt_len hj.lt_len
  obtain ⟨t1, g1, g1'⟩ := hT i j r1 z11 e1 e3
  obtain ⟨t2, g2, g2'⟩ := hT i (j + 1) r1 z12 e1 e4
  obtain ⟨_, g3, g3'⟩ := hT (i + 1) j r2 z21 e2 e5
  obtain ⟨_, g4, g4'⟩ := hT (i + 1) (j + 1) r2 z22 e2 e6
  cases g1.symm.trans g3
  cases g2.symm.trans g4
  rw [bilinearInterp_of_cell ext hsx hsy hlx hly hi hj e1 e2 e3 e4 e5 e6,
    bilinearInterp_of_cell ext hsy hsx hly hlx hj hi g1 g2 g1' g3' g2' g4']
  -- both calls pass the same two gates (in the other order); where one fails both are `OutOfBounds`
  by_cases cx : ext = true ∨ InRange xs x <;> by_cases cy : ext = true ∨ InRange ys y <;>
    simp only [cx, cy, if_true, if_false]
  congr 1
  simp only [cellPiece, Lanes.map4]
  rw [blend_eq, blend_eq]
  ring

end

end NdInterp
