/-
C02 / C03 — rounding of the evaluation of one spline segment under the standard model of floating-point arithmetic.

`CubicSplineStrategy::interp_into` evaluates, for a query `x` in the interval `[x_l, x_r]` with data `y_l, y_r` and coefficients `a, b`,

    t = (x - x_l) / (x_r - x_l)
    (1 - t)·y_l + t·y_r + t·(1 - t)·(a·(1 - t) + b·t)

in 13 rounded operations (`1 - t` is computed three times from the same operands, hence with the same rounding).  With every operation
returning `exact·(1+δ)`, `|δ| ≤ u ≤ 1/16` (the model of `C01_rounding`; no overflow / underflow), a query inside the interval is
within `102·u·M` of the exact value, `M = max(|y_l|, |y_r|, |a|, |b|)`.

This bounds the rounding of the *evaluation* given the coefficients.  The coefficients themselves come out of a tridiagonal solve whose
rounding depends on the conditioning of the system (interval ratios); no bound is proved for that part — the float runs test it with a
tolerance scaled by the interval ratio (see `PARTIAL` in `tools/props/c02.py`).
-/
import NdInterp.Lemmas.StdModel
import NdInterp.Lemmas.SplineEval

namespace NdInterp

section
variable {F : Type} [Field F] [LinearOrder F] [IsStrictOrderedRing F]

/-- the segment evaluation of `CubicSplineStrategy::interp_into` with every operation rounded -/
def splEvalFl (xl xr yl yr a b x d1 d2 d3 d4 d5 d6 d7 d8 d9 d10 d11 d12 d13 : F) : F :=
  let T := (x - xl) * (1 + d1) / ((xr - xl) * (1 + d2)) * (1 + d3)
  let S := (1 - T) * (1 + d4)
  let p1 := S * yl * (1 + d5)
  let p2 := T * yr * (1 + d6)
  let A := (p1 + p2) * (1 + d7)
  let q1 := T * S * (1 + d8)
  let r1 := a * S * (1 + d9)
  let r2 := b * T * (1 + d10)
  let R := (r1 + r2) * (1 + d11)
  let q := q1 * R * (1 + d12)
  (A + q) * (1 + d13)

omit [LinearOrder F] [IsStrictOrderedRing F] in
theorem splEvalFl_zero (xl xr yl yr a b x : F) :
    splEvalFl xl xr yl yr a b x 0 0 0 0 0 0 0 0 0 0 0 0 0 = splEvalExact xl xr yl yr a b x := by
  simp [splEvalFl, splEvalExact]

omit [LinearOrder F] [IsStrictOrderedRing F] in
/-- `splEvalExact` is the expression of the model's `splineEvalAt` on one lane (which `FT_spl_eval` ties to the source text) -/
theorem C02_eval_exact_is_model (x xL xR yL yR aL bL : F) :
    (let t := (x - xL) / (xR - xL)
     Lanes.map4 (V := F) (fun yLeft yRight aLeft bLeft =>
       (c1 - t) * yLeft + t * yRight + t * (c1 - t) * (aLeft * (c1 - t) + bLeft * t)) yL yR aL bL)
      = splEvalExact xL xR yL yR aL bL x := by
  simp [splEvalExact, map4_scalar, c1]

/-! `K` bounds `|t|` and `|1 − t|`, `L` bounds `|1 − t| + |t|` (inside the interval `K = L = 1`, outside `L = 2K`), `M` the four data.
The rounded `t` is `T = t·θ` with `θ` as in `theta_bound`; `S` is the rounded `1 − T`. -/

theorem coord_err {t θ d u K : F} (hu0 : 0 ≤ u) (hu : u ≤ 1/16) (hθ : |θ - 1| ≤ 6 * u) (hKt : |t| ≤ K) (hKs : |1 - t| ≤ K)
    (hd : |d| ≤ u) :
    |t * θ - t| ≤ 6 * u * K ∧ |(1 - t * θ) * (1 + d) - (1 - t)| ≤ 8 * u * K := by
  have hK0 : 0 ≤ K := (abs_nonneg _).trans hKt
  have rT : |t * θ - t| ≤ 6 * u * K := by
    rw [← mul_sub_one, mul_comm (6 * u)]
    exact abs_mul_le hKt hθ
  refine ⟨rT, (fl_err (e := 6 * u * K) (by rwa [sub_sub_sub_cancel_left, abs_sub_comm]) hKs hd).trans ?_⟩
  have h := mul_nonneg hu0 hK0
  have := absorb hu h
  linarith

/-- both halves of the evaluation, `(1−t)·y_l + t·y_r` and `(1−t)·a + t·b`, are this computation -/
theorem blend_err {t T S c d δ1 δ2 δ3 u M K L : F} (hu0 : 0 ≤ u) (hu : u ≤ 1/16)
    (rT : |T - t| ≤ 6 * u * K) (rS : |S - (1 - t)| ≤ 8 * u * K) (hKt : |t| ≤ K) (hKs : |1 - t| ≤ K) (hL : |1 - t| + |t| ≤ L)
    (hc : |c| ≤ M) (hd : |d| ≤ M) (e1 : |δ1| ≤ u) (e2 : |δ2| ≤ u) (e3 : |δ3| ≤ u) :
    |(S * c * (1 + δ1) + T * d * (1 + δ2)) * (1 + δ3) - ((1 - t) * c + t * d)| ≤ (20 * K + L) * (u * M) ∧
      |(1 - t) * c + t * d| ≤ L * M := by
  have hM0 : 0 ≤ M := (abs_nonneg _).trans hc
  have hw : 0 ≤ u * M * K := mul_nonneg (mul_nonneg hu0 hM0) ((abs_nonneg _).trans hKt)
  have p1 := fl_mul (1 - t) S c c δ1 (8 * u * K) 0 K M u rS (by simp) hKs hc e1
  have p2 := fl_mul t T d d δ2 (6 * u * K) 0 K M u rT (by simp) hKt hd e2
  have b1 : |(1 - t) * c| ≤ |1 - t| * M := abs_mul_le le_rfl hc
  have b2 : |t * d| ≤ |t| * M := abs_mul_le le_rfl hd
  have hLM := mul_le_mul_of_nonneg_right hL hM0
  refine ⟨(fl_add _ _ _ _ δ3 _ _ _ _ u p1 p2 b1 b2 e3).trans ?_, (abs_add_le _ _).trans (by linarith)⟩
  have := absorb hu hw
  have := absorb hu (mul_nonneg hu0 hw)
  have := mul_le_mul_of_nonneg_right hLM hu0
  linarith

/-- at any argument: `C02_eval_rounding` is `K = L = 1`, `C06_spline_eval_rounding` is `L = 2K` -/
theorem splEvalFl_err (xl xr yl yr a b x u M K L d1 d2 d3 d4 d5 d6 d7 d8 d9 d10 d11 d12 d13 : F)
    (hKt : |(x - xl) / (xr - xl)| ≤ K) (hKs : |1 - (x - xl) / (xr - xl)| ≤ K)
    (hL : |1 - (x - xl) / (xr - xl)| + |(x - xl) / (xr - xl)| ≤ L) (hu0 : 0 ≤ u) (hu : u ≤ 1/16)
    (e1 : |d1| ≤ u) (e2 : |d2| ≤ u) (e3 : |d3| ≤ u) (e4 : |d4| ≤ u) (e5 : |d5| ≤ u) (e6 : |d6| ≤ u) (e7 : |d7| ≤ u)
    (e8 : |d8| ≤ u) (e9 : |d9| ≤ u) (e10 : |d10| ≤ u) (e11 : |d11| ≤ u) (e12 : |d12| ≤ u) (e13 : |d13| ≤ u)
    (hyl : |yl| ≤ M) (hyr : |yr| ≤ M) (ha : |a| ≤ M) (hb : |b| ≤ M) :
    |splEvalFl xl xr yl yr a b x d1 d2 d3 d4 d5 d6 d7 d8 d9 d10 d11 d12 d13 - splEvalExact xl xr yl yr a b x| ≤
      ((20 * K + L + (48 * K + 25 * L) * K ^ 2) * (1 + u) + (1 + K ^ 2) * L) * (u * M) := by
  -- the rounded `t` carries three of `theta_bound`'s five factors; the other two are `1 + 0`
  have hT : (x - xl) * (1 + d1) / ((xr - xl) * (1 + d2)) * (1 + d3) =
      (x - xl) / (xr - xl) * ((1 + d1) * (1 + d3) * (1 + 0) * (1 + 0) / (1 + d2)) := by
    generalize xr - xl = h, 1 + d2 = e
    ring
  have hθ := theta_bound u d1 d2 d3 0 0 hu0 hu e1 e2 e3 (by simpa using hu0) (by simpa using hu0)
  unfold splEvalFl splEvalExact
  -- `a * S`, `b * T` are turned round so that both halves have the shape of `blend_err`
  simp only [hT, mul_comm a, mul_comm b]
  generalize (1 + d1) * (1 + d3) * (1 + 0) * (1 + 0) / (1 + d2) = θ at hθ ⊢
  generalize (x - xl) / (xr - xl) = t at hKt hKs hL ⊢
  obtain ⟨rT, rS⟩ := coord_err hu0 hu hθ hKt hKs e4
  generalize t * θ = T at rT rS ⊢
  generalize (1 - T) * (1 + d4) = S at rS ⊢
  obtain ⟨rA, bA⟩ := blend_err hu0 hu rT rS hKt hKs hL hyl hyr e5 e6 e7
  obtain ⟨rR, bR⟩ := blend_err hu0 hu rT rS hKt hKs hL ha hb e9 e10 e11
  have hK0 : 0 ≤ K := (abs_nonneg _).trans hKt
  have hL0 : 0 ≤ L := (add_nonneg (abs_nonneg _) (abs_nonneg _)).trans hL
  have hw : 0 ≤ u * M := mul_nonneg hu0 ((abs_nonneg _).trans hyl)
  -- `q1 = T·S`
  have rq1 : |T * S * (1 + d8) - t * (1 - t)| ≤ 20 * (u * K ^ 2) := by
    refine (fl_mul t T (1 - t) S d8 _ _ K K u rT rS hKt hKs e8).trans ?_
    have h := mul_nonneg hu0 (pow_nonneg hK0 2)
    have := absorb hu h
    have := absorb hu (mul_nonneg hu0 h)
    linarith
  have bq1 : |t * (1 - t)| ≤ K * K := abs_mul_le hKt hKs
  -- `q = q1·R`
  have rq : |T * S * (1 + d8) * ((S * a * (1 + d9) + T * b * (1 + d10)) * (1 + d11)) * (1 + d12)
      - t * (1 - t) * ((1 - t) * a + t * b)| ≤ (48 * K + 25 * L) * K ^ 2 * (u * M) := by
    refine (fl_mul _ _ _ _ d12 _ _ _ _ u rq1 rR bq1 bR e12).trans ?_
    have h3 := mul_nonneg (pow_nonneg hK0 3) hw
    have h2 := mul_nonneg (mul_nonneg (pow_nonneg hK0 2) hL0) hw
    have := absorb hu h3
    have := absorb hu (mul_nonneg hu0 h3)
    have := absorb hu h2
    have := absorb hu (mul_nonneg hu0 h2)
    linarith
  have bq : |t * (1 - t) * ((1 - t) * a + t * b)| ≤ K * K * (L * M) := abs_mul_le bq1 bR
  exact (fl_add _ _ _ _ d13 _ _ _ _ u rA rq bA bq e13).trans (le_of_eq (by ring))

/-- Inside the interval the rounded segment evaluation is within `102·u·M` of the exact one. -/
theorem C02_eval_rounding (xl xr yl yr a b x u M d1 d2 d3 d4 d5 d6 d7 d8 d9 d10 d11 d12 d13 : F)
    (hx : xl < xr) (h1 : xl ≤ x) (h2 : x ≤ xr) (hu0 : 0 ≤ u) (hu : u ≤ 1/16)
    (e1 : |d1| ≤ u) (e2 : |d2| ≤ u) (e3 : |d3| ≤ u) (e4 : |d4| ≤ u) (e5 : |d5| ≤ u) (e6 : |d6| ≤ u) (e7 : |d7| ≤ u)
    (e8 : |d8| ≤ u) (e9 : |d9| ≤ u) (e10 : |d10| ≤ u) (e11 : |d11| ≤ u) (e12 : |d12| ≤ u) (e13 : |d13| ≤ u)
    (hyl : |yl| ≤ M) (hyr : |yr| ≤ M) (ha : |a| ≤ M) (hb : |b| ≤ M) :
    |splEvalFl xl xr yl yr a b x d1 d2 d3 d4 d5 d6 d7 d8 d9 d10 d11 d12 d13 - splEvalExact xl xr yl yr a b x| ≤ 102 * u * M := by
  obtain ⟨ht0, ht1⟩ := unit_coord hx h1 h2
  have hs0 := sub_nonneg.mpr ht1
  refine (splEvalFl_err xl xr yl yr a b x u M 1 1 d1 d2 d3 d4 d5 d6 d7 d8 d9 d10 d11 d12 d13
    (by rwa [abs_of_nonneg ht0]) ((abs_of_nonneg hs0).trans_le (sub_le_self 1 ht0))
    (by rw [abs_of_nonneg ht0, abs_of_nonneg hs0, sub_add_cancel])
    hu0 hu e1 e2 e3 e4 e5 e6 e7 e8 e9 e10 e11 e12 e13 hyl hyr ha hb).trans ?_
  have hw := mul_nonneg hu0 ((abs_nonneg _).trans hyl)
  have := absorb hu hw
  linarith

/-- non-vacuity: the hypotheses are met by an ordinary segment and concrete perturbations -/
example : |splEvalFl (0 : ℚ) 2 1 3 (-1) 2 (1/2) (1/32) 0 0 0 0 (-1/32) 0 0 0 0 0 0 (1/32)
    - splEvalExact 0 2 1 3 (-1) 2 (1/2)| ≤ 102 * (1/32) * 3 :=
  C02_eval_rounding 0 2 1 3 (-1) 2 (1/2) (1/32) 3 (1/32) 0 0 0 0 (-1/32) 0 0 0 0 0 0 (1/32)
    (by norm_num) (by norm_num) (by norm_num) (by norm_num) (by norm_num)
    (by norm_num [abs_of_nonneg]) (by norm_num) (by norm_num) (by norm_num) (by norm_num) (by norm_num [abs_of_nonneg]) (by norm_num)
    (by norm_num) (by norm_num) (by norm_num) (by norm_num) (by norm_num) (by norm_num [abs_of_nonneg])
    (by norm_num [abs_of_nonneg]) (by norm_num [abs_of_nonneg]) (by norm_num [abs_of_nonneg]) (by norm_num [abs_of_nonneg])

end

end NdInterp
