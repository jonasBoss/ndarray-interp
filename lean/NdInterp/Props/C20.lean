/-
C20 — Linear and Bilinear results depend only on the bracketing data points.  The data half assumes
nothing of the scalar operations (hence bit-identical for IEEE arithmetic, NaN and ±inf in the other
rows included); the axis half is over an ordered field.
-/
import NdInterp.Lemmas.LinearCore

namespace NdInterp

section anyops
variable {α V : Type} [Cmp α] [Add α] [Sub α] [Mul α] [Div α] [NatCast α] [ToUsize α] [Lanes α V]

/-- Only rows `i`, `i+1` of the data are read (`i` = the lookup's index): two data sets that agree
    there give the same result term. -/
theorem C20_linear_data (ext : Bool) (xs : List α) (ys ys' : List V) (q : α)
    (h : ∀ i, lowerIndex xs q = .ok i → ys[i]? = ys'[i]? ∧ ys[i + 1]? = ys'[i + 1]?) :
    linearInterp ext xs ys q = linearInterp ext xs ys' q := by
  unfold linearInterp
  refine bind_congr fun _ => Except.bind_congr_ok fun i hi => ?_
  rw [rd_congr ys ys' i (h i hi).1, rd_congr ys ys' (i + 1) (h i hi).2]

/-- Only the four corner rows of the selected cell are read. -/
theorem C20_bilinear_data (ext : Bool) (xs ys : List α) (zs zs' : List (List V)) (x y : α)
    (h : ∀ i j, lowerIndex xs x = .ok i → lowerIndex ys y = .ok j →
      ∃ r1 r2 r1' r2', zs[i]? = some r1 ∧ zs[i + 1]? = some r2 ∧
        zs'[i]? = some r1' ∧ zs'[i + 1]? = some r2' ∧
        r1[j]? = r1'[j]? ∧ r1[j + 1]? = r1'[j + 1]? ∧ r2[j]? = r2'[j]? ∧ r2[j + 1]? = r2'[j + 1]?) :
    bilinearInterp ext xs ys zs x y = bilinearInterp ext xs ys zs' x y := by
  unfold bilinearInterp
  refine bind_congr fun _ => bind_congr fun _ => Except.bind_congr_ok fun i hi =>
    Except.bind_congr_ok fun j hj => ?_
  obtain ⟨r1, r2, r1', r2', a1, a2, b1, b2, c1, c2, c3, c4⟩ := h i j hi hj
  simp only [rd_of_some _ _ _ a1, rd_of_some _ _ _ a2, rd_of_some _ _ _ b1, rd_of_some _ _ _ b2,
    bind, Except.bind, rd_congr r1 r1' j c1, rd_congr r1 r1' (j + 1) c2, rd_congr r2 r2' j c3,
    rd_congr r2 r2' (j + 1) c4]
end anyops

section
variable {α V : Type} [Field α] [LinearOrder α] [IsStrictOrderedRing α]
  [Cmp α] [LawfulCmp α] [ToUsize α] [LawfulToUsize α] [Lanes α V]

/-- Moving non-bracketing knots (axis kept strictly increasing) does not change the result, in
    range or extrapolated. -/
theorem C20_linear_axis (ext : Bool) (xs xs' : List α) (ys : List V) (q : α) (i : Nat)
    (hs : StrictInc xs) (hs' : StrictInc xs') (hlen : xs'.length = xs.length)
    (hl : ys.length = xs.length) (hn : xs.length < 2 ^ 64)
    (hb : Bracket xs q i)
    (e1 : xs'[i]'(by have := hb.lt_len; omega) = xs[i]'(by have := hb.lt_len; omega))
    (e2 : xs'[i + 1]'(by have := hb.lt_len; omega) = xs[i + 1]'hb.lt_len) :
    linearInterp ext xs' ys q = linearInterp ext xs ys q := by
  have hb' : Bracket xs' q i := hb.transfer hs hs' hlen e1 e2
  have hr := InRange.congr hs hs' hlen hb e1 e2
  rw [linearInterp_of_bracket ext ys hs hl hn hb,
    linearInterp_of_bracket ext ys hs' (by omega) (by omega) hb']
  simp only [hr, linePiece, e1, e2]

/-- The same for both axes of a grid. -/
theorem C20_bilinear_axis (ext : Bool) (xs xs' ys ys' : List α) (zs : List (List V)) (x y : α)
    (i j : Nat)
    (hsx : StrictInc xs) (hsx' : StrictInc xs') (hlx : xs'.length = xs.length)
    (hsy : StrictInc ys) (hsy' : StrictInc ys') (hly : ys'.length = ys.length)
    (hg : GridOK zs xs.length ys.length) (hnx : xs.length < 2 ^ 64) (hny : ys.length < 2 ^ 64)
    (hbx : Bracket xs x i) (hby : Bracket ys y j)
    (ex1 : xs'[i]'(by have := hbx.lt_len; omega) = xs[i]'(by have := hbx.lt_len; omega))
    (ex2 : xs'[i + 1]'(by have := hbx.lt_len; omega) = xs[i + 1]'hbx.lt_len)
    (ey1 : ys'[j]'(by have := hby.lt_len; omega) = ys[j]'(by have := hby.lt_len; omega))
    (ey2 : ys'[j + 1]'(by have := hby.lt_len; omega) = ys[j + 1]'hby.lt_len) :
    bilinearInterp ext xs' ys' zs x y = bilinearInterp ext xs ys zs x y := by
  have hbx' : Bracket xs' x i := hbx.transfer hsx hsx' hlx ex1 ex2
  have hby' : Bracket ys' y j := hby.transfer hsy hsy' hly ey1 ey2
  have hrx := InRange.congr hsx hsx' hlx hbx ex1 ex2
  have hry := InRange.congr hsy hsy' hly hby ey1 ey2
  obtain ⟨r1, r2, z11, z12, z21, z22, e1, e2, e11, e12, e21, e22⟩ := hg.cell hbx.lt_len hby.lt_len
  rw [bilinearInterp_of_cell ext hsx hsy hnx hny hbx hby e1 e2 e11 e12 e21 e22,
    bilinearInterp_of_cell ext hsx' hsy' (by omega) (by omega) hbx' hby' e1 e2 e11 e12 e21 e22]
  simp only [hrx, hry, cellPiece, ex1, ex2, ey1, ey2]

end

end NdInterp
