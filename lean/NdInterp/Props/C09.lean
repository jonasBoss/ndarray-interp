/-
C09 — all query entry points agree and results have shape `query shape ++ trailing data dims`.

Generic over the scalar type and over the strategy (`f q` = `strategy.interp_into(self, target, q)`).
-/
import NdInterp.Props.C05
import NdInterp.Model.Dims

namespace NdInterp

section
variable {α β : Type}

/-- `interp_array(qs)` has shape `qshape ++ trailing`, and its `k`-th block of lane values is exactly what
    `interp(qs[k])` returns — for every query shape (0-d, empty, any rank). -/
theorem C09_array_elem (trailing : List Nat) (f : β → Except Fault (List α)) (qshape : List Nat)
    (qs : List β) (arr : NdArr α) (h : epArray trailing f qshape qs = .ok arr) :
    arr.shape = qshape ++ trailing ∧
    ∃ vs : List (List α), arr.flat = vs.flatten ∧ vs.length = qs.length ∧
      ∀ k (hk : k < qs.length), ∃ (hk' : k < vs.length),
        epInterp trailing f qs[k] = .ok { shape := trailing, flat := vs[k] } := by
  rw [epArray_eq_map] at h
  obtain ⟨vs, he, rfl⟩ := Except.map_eq_ok.mp h
  obtain ⟨hl, hk⟩ := mapM_ok f qs vs (interpEach_eq_mapM f qs ▸ he)
  exact ⟨rfl, vs, rfl, hl, fun k hkq => ⟨hl ▸ hkq, by simp [epInterp, hk k hkq (hl ▸ hkq)]⟩⟩

/-- A failing batch fails with the error of its first failing element. -/
theorem C09_array_err (trailing : List Nat) (f : β → Except Fault (List α)) (qshape : List Nat)
    (qs : List β) (e : Fault) (h : epArray trailing f qshape qs = .error e) :
    ∃ pre q post, qs = pre ++ q :: post ∧ (∀ p ∈ pre, ∃ v, f p = .ok v) ∧
      epInterp trailing f q = .error e := by
  rw [epArray_eq_map, Except.map_eq_error] at h
  obtain ⟨pre, q, post, a, b, c⟩ := C05_batch_first_error f qs e h
  exact ⟨pre, q, post, a, b, by simp [epInterp, c]⟩

/-- `interp_scalar(q)` is lane 0 of `interp(q)`. -/
theorem C09_scalar (trailing : List Nat) (f : β → Except Fault (List α)) (q : β) :
    epScalar f q =
      (match epInterp trailing f q with
       | .error e => .error e
       | .ok a => rd a.flat 0) := by
  unfold epScalar epInterp
  cases f q <;> rfl

/-- Correctly shaped `interp_into` / `interp_array_into` yield what the allocating variants return
    (memory form: `C14_all_written`). -/
theorem C09_into_eq_alloc (trailing : List Nat) (f : β → Except Fault (List α)) (qshape : List Nat)
    (qs : List β) (q : β) :
    epArrayInto trailing f qshape qs (qshape ++ trailing) = epArray trailing f qshape qs ∧
    epInterpInto trailing f q trailing = epInterp trailing f q := by
  constructor
  · simp [epArrayInto]
  · unfold epInterpInto epInterp
    cases f q <;> simp

/-- the rank-1 fast path: `Zip::from(xs).and(buffer.axis_iter_mut(Axis(0))).fold_while(Ok(()), …)` —
    a left fold that appends rows and stops at the first error -/
def fastPath (f : β → Except Fault (List α)) (acc : List (List α)) : List β → Except Fault (List (List α))
  | [] => .ok acc
  | q :: qs =>
    match f q with
    | .error e => .error e
    | .ok v => fastPath f (acc ++ [v]) qs

theorem fastPath_eq (f : β → Except Fault (List α)) (acc : List (List α)) (qs : List β) :
    fastPath f acc qs = (interpEach f qs).map (acc ++ ·) := by
  induction qs generalizing acc with
  | nil => simp [fastPath, interpEach, Except.map]
  | cons q qs ih =>
    simp only [fastPath, interpEach]
    cases f q with
    | error e => rfl
    | ok v =>
      simp only [ih]
      cases interpEach f qs <;> simp [Except.map]

/-- The rank-1 fast path and the general per-element loop give the same result. -/
theorem C09_fast_eq_general (f : β → Except Fault (List α)) (qs : List β) :
    fastPath f [] qs = interpEach f qs := by
  rw [fastPath_eq]
  cases interpEach f qs <;> rfl

end

def DimTy.admits : DimTy → Nat → Prop
  | .ix n, r => r = n.val
  | .dyn, _ => True

theorem DimTy.extNew_of_admits {d : DimTy} {lens : List Nat} (h : d.admits lens.length) :
    d.extNew lens = lens := by
  cases d with
  | dyn => rfl
  | ix n => exact List.take_left' h

theorem DimTy.add_admits {dq ds : DimTy} {m n : Nat} (hq : dq.admits m) (hd : ds.admits n) :
    (dq.add ds).admits (m + n) := by
  cases dq with
  | dyn => trivial
  | ix a =>
    cases ds with
    | dyn => trivial
    | ix b =>
      cases hq; cases hd
      simp only [DimTy.add]
      split
      · rfl
      · trivial

/-- `get_buffer_shape`: the result dimension *type* is `<Dq as DimAdd<D::Smaller>>::Output`, and `DimExtension::new`
    fills it with exactly `qshape ++ trailing` — nothing dropped, nothing padded — whether it is static
    (combined rank ≤ 6) or dynamic (`C09_shape_dyn`, or a dynamic operand). -/
theorem C09_shape (dq ds : DimTy) (qshape trailing : List Nat)
    (hq : dq.admits qshape.length) (hd : ds.admits trailing.length) :
    (dq.add ds).extNew (qshape ++ trailing) = qshape ++ trailing ∧
    (dq.add ds).admits (qshape ++ trailing).length := by
  have h : (dq.add ds).admits (qshape ++ trailing).length :=
    List.length_append ▸ DimTy.add_admits hq hd
  exact ⟨DimTy.extNew_of_admits h, h⟩

theorem C09_shape_dyn (a b : Fin 7) (h : 6 < a.val + b.val) : (DimTy.ix a).add (DimTy.ix b) = .dyn := by
  simp only [DimTy.add]
  rw [dif_neg (by omega)]

end NdInterp
