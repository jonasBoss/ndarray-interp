/-
C14 — `*_into` calls fill exactly the caller's buffer or reject a wrongly shaped one.
C13 — (buffer part) a correctly shaped output buffer is accepted whatever its strides.

Model of the entry points: `Model/Interp.lean` (`epInterpInto`, `epArrayInto`) and, on strided views over a
memory, `Model/View.lean` (`arrayIntoMem`).
-/
import NdInterp.Lemmas.ViewLemmas
import NdInterp.Lemmas.Batch

namespace NdInterp

section
variable {α β : Type}

/-- `interp_array_into` with a built-in strategy can return `Ok` only if the buffer has exactly the required
    shape `query shape ++ trailing data shape`; any other shape — too small, too large, permuted with equal
    element count, wrong rank — is `panic`, before any strategy call. -/
theorem C14_ok_iff_shape (trailing : List Nat) (f : β → Except Fault (List α)) (qshape : List Nat)
    (qs : List β) (bufShape : List Nat) :
    (bufShape ≠ qshape ++ trailing → epArrayInto trailing f qshape qs bufShape = .error .panic) ∧
    (bufShape = qshape ++ trailing →
      epArrayInto trailing f qshape qs bufShape = epArray trailing f qshape qs) := by
  constructor
  · intro h; simp [epArrayInto, h]
  · intro h; simp [epArrayInto, h]

/-- The same for `interp_into`: `Ok` only with the trailing shape; the value is what `interp` returns. -/
theorem C14_into_shape (trailing : List Nat) (f : β → Except Fault (List α)) (q : β)
    (bufShape : List Nat) (a : NdArr α) (h : epInterpInto trailing f q bufShape = .ok a) :
    bufShape = trailing ∧ epInterp trailing f q = .ok a := by
  unfold epInterpInto at h
  unfold epInterp
  cases hf : f q with
  | error e => rw [hf] at h; cases h
  | ok v =>
    rw [hf] at h
    simp only at h ⊢
    split at h
    · next hs => injection h with h; subst h; exact ⟨hs, by rw [hs]⟩
    · cases h

/-- The same on memory: a wrongly shaped view is rejected before anything is written -/
theorem C14_mem_shape (trailing : List Nat) (f : β → Except Fault (List α)) (qshape : List Nat)
    (qs : List β) (buf : View) (m : Int → α) (h : buf.shape ≠ qshape ++ trailing) :
    arrayIntoMem trailing f qshape qs buf m = .error .panic := by
  simp [arrayIntoMem, h]

theorem arrayIntoMem_eq_ok {trailing : List Nat} {f : β → Except Fault (List α)} {qshape : List Nat}
    {qs : List β} {buf : View} {m m' : Int → α} :
    arrayIntoMem trailing f qshape qs buf m = .ok m' ↔
      buf.shape = qshape ++ trailing ∧
        ∃ rows, interpEach f qs = .ok rows ∧ writeRows buf m (indices qshape) rows = m' := by
  unfold arrayIntoMem
  split
  · next hs => exact ⟨nofun, fun h => absurd h.1 hs⟩
  · next hs =>
    rw [and_iff_right (Decidable.of_not_not hs), ← Except.map_eq_ok]
    cases interpEach f qs <;> rfl

/-- On `Ok`, reading the buffer view in logical order gives exactly the values the allocating variant returns —
    every element was overwritten — and memory at addresses outside the view is unchanged. -/
theorem C14_all_written (trailing : List Nat) (f : β → Except Fault (List α)) (qshape : List Nat)
    (qs : List β) (buf : View) (m m' : Int → α)
    (hinj : buf.addrs.Nodup) (hstr : qshape.length ≤ buf.strides.length)
    (hq : qs.length = shapeSize qshape)
    (hf : ∀ q v, f q = .ok v → v.length = shapeSize trailing)
    (h : arrayIntoMem trailing f qshape qs buf m = .ok m') :
    ∃ arr, epArray trailing f qshape qs = .ok arr ∧ buf.read m' = arr.flat ∧
      ∀ a, a ∉ buf.addrs → m' a = m a := by
  obtain ⟨hshape, rows, he, rfl⟩ := arrayIntoMem_eq_ok.mp h
  obtain ⟨hlen, hrows⟩ := mapM_ok f qs rows (interpEach_eq_mapM f qs ▸ he)
  have hrow : ∀ r ∈ rows, r.length = shapeSize trailing := fun r hr => by
    obtain ⟨k, hk, rfl⟩ := List.getElem_of_mem hr
    exact hf _ _ (hrows k (hlen ▸ hk) hk)
  obtain ⟨hwr, hfl⟩ := writeRows_indices buf m qshape trailing rows hshape (hlen.trans hq) hrow
  rw [hwr]
  exact ⟨⟨qshape ++ trailing, rows.flatten⟩, by simp [epArray, he], View.read_write _ _ _ hinj hfl,
    fun a => View.write_frame _ _ _ a⟩

/-- Same shape, any strides ⇒ same logical contents (the claim in full: `C13_buffer_layout`, `Props/C13.lean`). -/
theorem C13_buffer (trailing : List Nat) (f : β → Except Fault (List α)) (qshape : List Nat)
    (qs : List β) (b1 b2 : View) (m1 m2 m1' m2' : Int → α)
    (hshape : b1.shape = b2.shape)
    (hinj1 : b1.addrs.Nodup) (hinj2 : b2.addrs.Nodup)
    (hs1 : qshape.length ≤ b1.strides.length) (hs2 : qshape.length ≤ b2.strides.length)
    (hq : qs.length = shapeSize qshape)
    (hf : ∀ q v, f q = .ok v → v.length = shapeSize trailing)
    (h1 : arrayIntoMem trailing f qshape qs b1 m1 = .ok m1') :
    ∃ m2', arrayIntoMem trailing f qshape qs b2 m2 = .ok m2' ∧ b2.read m2' = b1.read m1' := by
  obtain ⟨hs, rows, he, _⟩ := arrayIntoMem_eq_ok.mp h1
  have h2 := (arrayIntoMem_eq_ok (m := m2)).mpr ⟨hshape ▸ hs, rows, he, rfl⟩
  obtain ⟨a1, e1, r1, _⟩ := C14_all_written trailing f qshape qs b1 m1 m1' hinj1 hs1 hq hf h1
  obtain ⟨a2, e2, r2, _⟩ := C14_all_written trailing f qshape qs b2 m2 _ hinj2 hs2 hq hf h2
  cases e1.symm.trans e2
  exact ⟨_, h2, r2.trans r1.symm⟩

end

end NdInterp
