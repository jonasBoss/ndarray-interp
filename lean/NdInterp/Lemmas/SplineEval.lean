/-
Evaluation of the spline (single lane): the Hermite form the code evaluates is an explicit cubic on every
interval (`hermite_eq_cubic`); `CubicSplineStrategy::interp_into` is the range gate (`No`), the wrap
(`Periodic`), then the evaluation (`splineInterp_unfold`).
-/
import NdInterp.Lemmas.Thomas
import NdInterp.Lemmas.LinearCore
import Mathlib.Algebra.Polynomial.Derivative
import Mathlib.Algebra.Polynomial.Eval.Defs
import Mathlib.Algebra.Polynomial.Degree.Lemmas

namespace NdInterp

open Polynomial

variable {F : Type} [Field F]

/-- a cubic in the shifted monomial basis at `x0` -/
structure Cubic (F : Type) where
  x0 : F
  c0 : F
  c1 : F
  c2 : F
  c3 : F

noncomputable def Cubic.toPoly (c : Cubic F) : F[X] :=
  C c.c0 + C c.c1 * (X - C c.x0) + C c.c2 * (X - C c.x0) ^ 2 + C c.c3 * (X - C c.x0) ^ 3

def Cubic.eval (c : Cubic F) (x : F) : F :=
  c.c0 + c.c1 * (x - c.x0) + c.c2 * (x - c.x0) ^ 2 + c.c3 * (x - c.x0) ^ 3
def Cubic.d1 (c : Cubic F) (x : F) : F := c.c1 + 2 * c.c2 * (x - c.x0) + 3 * c.c3 * (x - c.x0) ^ 2
def Cubic.d2 (c : Cubic F) (x : F) : F := 2 * c.c2 + 6 * c.c3 * (x - c.x0)
def Cubic.d3 (c : Cubic F) : F := 6 * c.c3

theorem Cubic.eval_toPoly (c : Cubic F) (x : F) : c.toPoly.eval x = c.eval x := by
  simp [Cubic.toPoly, Cubic.eval]
theorem Cubic.derivative_toPoly (c : Cubic F) :
    derivative c.toPoly = (⟨c.x0, c.c1, 2 * c.c2, 3 * c.c3, 0⟩ : Cubic F).toPoly := by
  simp [Cubic.toPoly, derivative_pow]
  ring

theorem Cubic.d1_toPoly (c : Cubic F) (x : F) : (derivative c.toPoly).eval x = c.d1 x := by
  rw [Cubic.derivative_toPoly, Cubic.eval_toPoly]
  simp only [Cubic.eval, Cubic.d1, zero_mul, add_zero]
theorem Cubic.d2_toPoly (c : Cubic F) (x : F) : (derivative^[2] c.toPoly).eval x = c.d2 x := by
  simp only [Function.iterate_succ, Function.iterate_zero, Function.comp_apply, id,
    Cubic.derivative_toPoly, Cubic.eval_toPoly, Cubic.eval, Cubic.d2, mul_zero, zero_mul, add_zero]
  ring
theorem Cubic.d3_toPoly (c : Cubic F) (x : F) : (derivative^[3] c.toPoly).eval x = c.d3 := by
  simp only [Function.iterate_succ, Function.iterate_zero, Function.comp_apply, id,
    Cubic.derivative_toPoly, Cubic.eval_toPoly, Cubic.eval, Cubic.d3, mul_zero, zero_mul, add_zero]
  ring

theorem Cubic.natDegree_le (c : Cubic F) : c.toPoly.natDegree ≤ 3 := by
  unfold Cubic.toPoly
  have hX : (X - C c.x0 : F[X]).natDegree ≤ 1 := natDegree_X_sub_C_le _
  refine natDegree_add_le_of_degree_le (natDegree_add_le_of_degree_le
    (natDegree_add_le_of_degree_le ?_ ?_) ?_) ?_
  · exact (natDegree_C _).le.trans (Nat.zero_le 3)
  · exact (natDegree_C_mul_le _ _).trans (hX.trans (by decide))
  · exact (natDegree_C_mul_le _ _).trans ((natDegree_pow_le_of_le 2 hX).trans (by decide))
  · exact (natDegree_C_mul_le _ _).trans (natDegree_pow_le_of_le 3 hX)

/-- the exact segment value, as the model's `splineEvalAt` computes it -/
def splEvalExact (xl xr yl yr a b x : F) : F :=
  let t := (x - xl) / (xr - xl)
  (1 - t) * yl + t * yr + t * (1 - t) * (a * (1 - t) + b * t)

/-- the cubic with values `yl, yr` and slopes `kl, kr` at `xl, xr` -/
def pieceCubic (xl xr yl yr kl kr : F) : Cubic F :=
  let h := xr - xl
  let d := (yr - yl) / h
  ⟨xl, yl, kl, (3 * d - 2 * kl - kr) / h, (kl + kr - 2 * d) / h ^ 2⟩

theorem hermite_eq_cubic (xl xr yl yr kl kr x : F) (h : xr - xl ≠ 0) :
    splEvalExact xl xr yl yr (kl * (xr - xl) - (yr - yl)) ((yr - yl) - kr * (xr - xl)) x
      = (pieceCubic xl xr yl yr kl kr).eval x := by
  simp only [splEvalExact, pieceCubic, Cubic.eval]
  generalize xr - xl = w, x - xl = s at *
  field_simp
  ring

theorem piece_eval_left (xl xr yl yr kl kr : F) : (pieceCubic xl xr yl yr kl kr).eval xl = yl := by
  simp [pieceCubic, Cubic.eval]
theorem piece_eval_right (xl xr yl yr kl kr : F) (h : xr - xl ≠ 0) :
    (pieceCubic xl xr yl yr kl kr).eval xr = yr := by
  simp only [pieceCubic, Cubic.eval]; field_simp; ring
theorem piece_d1_left (xl xr yl yr kl kr : F) : (pieceCubic xl xr yl yr kl kr).d1 xl = kl := by
  simp [pieceCubic, Cubic.d1]
theorem piece_d1_right (xl xr yl yr kl kr : F) (h : xr - xl ≠ 0) :
    (pieceCubic xl xr yl yr kl kr).d1 xr = kr := by
  simp only [pieceCubic, Cubic.d1]; field_simp; ring
theorem piece_d2_left (xl xr yl yr kl kr : F) :
    (pieceCubic xl xr yl yr kl kr).d2 xl = 2 * (3 * ((yr - yl) / (xr - xl)) - 2 * kl - kr) / (xr - xl) := by
  simp only [pieceCubic, Cubic.d2, sub_self, mul_zero, add_zero]
  ring
theorem piece_d2_right (xl xr yl yr kl kr : F) (h : xr - xl ≠ 0) :
    (pieceCubic xl xr yl yr kl kr).d2 xr = 2 * (kl + 2 * kr - 3 * ((yr - yl) / (xr - xl))) / (xr - xl) := by
  simp only [pieceCubic, Cubic.d2]; field_simp; ring

theorem coeffs_cons (x0 x1 y0 y1 k0 k1 : F) (xs ys ks : List F) :
    coeffs (x0 :: x1 :: xs) (y0 :: y1 :: ys) (k0 :: k1 :: ks) =
      (k0 * (x1 - x0) - (y1 - y0), (y1 - y0) - k1 * (x1 - x0)) :: coeffs (x1 :: xs) (y1 :: ys) (k1 :: ks) :=
  rfl

theorem coeffs_getD : ∀ (xs ys ks : List F) (i : Nat), i + 1 < xs.length → i + 1 < ys.length →
    i + 1 < ks.length →
    (coeffs xs ys ks)[i]? =
      some (ks.getD i 0 * (xs.getD (i + 1) 0 - xs.getD i 0) - (ys.getD (i + 1) 0 - ys.getD i 0),
            (ys.getD (i + 1) 0 - ys.getD i 0) - ks.getD (i + 1) 0 * (xs.getD (i + 1) 0 - xs.getD i 0))
  | x0 :: x1 :: xs, y0 :: y1 :: ys, k0 :: k1 :: ks, 0, _, _, _ => rfl
  | x0 :: x1 :: xs, y0 :: y1 :: ys, k0 :: k1 :: ks, i + 1, hx, hy, hk => by
    exact coeffs_getD (x1 :: xs) (y1 :: ys) (k1 :: ks) i (Nat.lt_of_succ_lt_succ hx)
      (Nat.lt_of_succ_lt_succ hy) (Nat.lt_of_succ_lt_succ hk)

@[simp] theorem extr_beq (a b : Extrapolate) : (a == b) = decide (a = b) := by
  cases a <;> cases b <;> rfl

def splineOf (xs ys ks : List F) (extr : Extrapolate) : SplineStrat F :=
  { a := (coeffs xs ys ks).map (·.1), b := (coeffs xs ys ks).map (·.2), extrapolate := extr }

def pieceAt (xs ys ks : List F) (i : Nat) (hi : i + 1 < xs.length) (hy : ys.length = xs.length)
    (hk : ks.length = xs.length) : Cubic F :=
  pieceCubic (xs[i]'(by omega)) xs[i + 1] (ys[i]'(by omega)) (ys[i + 1]'(by omega))
    (ks[i]'(by omega)) (ks[i + 1]'(by omega))

section
variable [Cmp F] [ToUsize F]

theorem splineEvalAt_ok (s : SplineStrat F) (xs ys : List F) (x : F) (i : Nat) (xl xr yl yr a b : F)
    (hi : lowerIndex xs x = .ok i) (hxl : rd xs i = .ok xl) (hyl : rd ys i = .ok yl)
    (hxr : rd xs (i + 1) = .ok xr) (hyr : rd ys (i + 1) = .ok yr)
    (ha : rd s.a i = .ok a) (hb : rd s.b i = .ok b) :
    splineEvalAt (V := F) s xs ys x = .ok (splEvalExact xl xr yl yr a b x) := by
  simp [splineEvalAt, splEvalExact, hi, hxl, hyl, hxr, hyr, ha, hb, bind, Except.bind, pure, Except.pure]

end

section
variable [LinearOrder F] [RemEuclid F]

/-- the point the periodic mode evaluates at -/
def wrapPoint (xs : List F) (q : F) : F :=
  if InRange xs q then q
  else RemEuclid.remEuclid (q - xs.getD 0 0) (xs.getD (xs.length - 1) 0 - xs.getD 0 0) + xs.getD 0 0

theorem splineWrap_eq (extr : Extrapolate) (xs : List F) (q : F) (h0 : 0 < xs.length) :
    splineWrap extr (decide (InRange xs q)) xs q =
      .ok (if extr = .periodic then wrapPoint xs q else q) := by
  unfold splineWrap wrapPoint
  rw [rd_getD xs 0 h0, rd_getD xs (xs.length - 1) (by omega)]
  by_cases hin : InRange xs q <;> cases extr <;> simp [hin] <;> rfl

variable [Cmp F] [LawfulCmp F] [ToUsize F]

theorem splineInterp_unfold (s : SplineStrat F) (xs ys : List F) (q : F) (h0 : 0 < xs.length) :
    splineInterp (V := F) s xs ys q =
      if s.extrapolate = .no ∧ ¬ InRange xs q then .error .outOfBounds
      else splineEvalAt s xs ys (if s.extrapolate = .periodic then wrapPoint xs q else q) := by
  unfold splineInterp
  rw [isInRange_eq xs q h0]
  simp only [bind, Except.bind, splineWrap_eq _ xs q h0]
  by_cases hin : InRange xs q <;> cases s.extrapolate <;> simp [hin]
  -- out of range in mode `No`: the gate's `throw`
  rfl

end

section
variable [LinearOrder F] [IsStrictOrderedRing F] [Cmp F] [LawfulCmp F] [ToUsize F] [LawfulToUsize F]

/-- the value of the evaluation at `x`, for whatever bracket of `x` the caller holds -/
theorem splineEvalAt_of_bracket (ys ks : List F) (extr : Extrapolate) {xs : List F} {x : F} {i : Nat}
    (hs : StrictInc xs) (hy : ys.length = xs.length) (hk : ks.length = xs.length)
    (hlen : xs.length < 2 ^ 64) (hb : Bracket xs x i) :
    splineEvalAt (V := F) (splineOf xs ys ks extr) xs ys x =
      .ok ((pieceAt xs ys ks i hb.lt_len hy hk).eval x) := by
  have hlt := hb.lt_len
  have hc := coeffs_getD xs ys ks i hlt (hy ▸ hlt) (hk ▸ hlt)
  rw [splineEvalAt_ok _ xs ys x i _ _ _ _ _ _ (lowerIndex_eq hs hlen hb) (rd_eq xs i (by omega))
    (rd_eq ys i (by omega)) (rd_eq xs (i + 1) hlt) (rd_eq ys (i + 1) (by omega))
    (rd_of_some _ i _ (by rw [splineOf, List.getElem?_map, hc]; rfl))
    (rd_of_some _ i _ (by rw [splineOf, List.getElem?_map, hc]; rfl))]
  simp only [pieceAt, getElem_eq_getD0]
  rw [hermite_eq_cubic _ _ _ _ _ _ _ (sub_pos.mpr (hs.getD_lt_succ hlt)).ne']

variable [RemEuclid F]

/-- `interp_into` in the modes `No` / `Yes`, for whatever bracket of `q` the caller holds: the value of the
    cubic piece of that interval, or `OutOfBounds` -/
theorem splineInterp_of_bracket (ys ks : List F) (extr : Extrapolate) (hne : extr ≠ .periodic)
    {xs : List F} {q : F} {i : Nat} (hs : StrictInc xs) (hy : ys.length = xs.length)
    (hk : ks.length = xs.length) (hlen : xs.length < 2 ^ 64) (hb : Bracket xs q i) :
    splineInterp (V := F) (splineOf xs ys ks extr) xs ys q =
      if extr = .yes ∨ InRange xs q then .ok ((pieceAt xs ys ks i hb.lt_len hy hk).eval q)
      else .error .outOfBounds := by
  have he := splineEvalAt_of_bracket ys ks extr hs hy hk hlen hb
  rw [splineInterp_unfold _ xs ys q (by have := hs.1; omega)]
  cases extr with
  | periodic => exact absurd rfl hne
  | yes => simpa [splineOf] using he
  | no =>
    by_cases hin : InRange xs q
    · simpa [splineOf, hin] using he
    · simp [splineOf, hin]

end

end NdInterp
