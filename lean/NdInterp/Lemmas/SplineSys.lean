/-
The tridiagonal system `solve_for_k` assembles (single lane): its rows by index; all Thomas pivots are positive
for every non-periodic boundary pair, hence `solveForK` returns *the* solution of the system.
-/
import NdInterp.Lemmas.RowsSat
import NdInterp.Lemmas.StrictInc
import NdInterp.Lemmas.Reads
import Mathlib.Tactic.Linarith

namespace NdInterp

variable {F : Type} [Field F]

/-- interior row of knot `i+1` built from the window `(x[i], x[i+1], x[i+2])` -/
def interiorRow (x0 x1 x2 y0 y1 y2 : F) : Row F F :=
  { lo := x2 - x1
    mid := 2 * ((x2 - x1) + (x1 - x0))
    up := x1 - x0
    rhs := 3 * ((x2 - x1) * (y1 - y0) / (x1 - x0) + (x1 - x0) * (y2 - y1) / (x2 - x1)) }

theorem interiorRows_cons (x0 x1 x2 y0 y1 y2 : F) (xs ys : List F) :
    interiorRows (x0 :: x1 :: x2 :: xs) (y0 :: y1 :: y2 :: ys) =
      interiorRow x0 x1 x2 y0 y1 y2 :: interiorRows (x1 :: x2 :: xs) (y1 :: y2 :: ys) := by
  simp only [interiorRows, interiorRow, c2_eq, c3_eq, map3_scalar]

theorem interiorRows_length : ∀ (xs ys : List F), ys.length = xs.length →
    (interiorRows xs ys).length = xs.length - 2
  | [], [], _ | [_], [_], _ | [_, _], [_, _], _ => rfl
  | x0 :: x1 :: x2 :: xs, y0 :: y1 :: y2 :: ys, hl => by
    rw [interiorRows_cons, List.length_cons, interiorRows_length (x1 :: x2 :: xs) _ (Nat.succ.inj hl)]
    rfl

theorem interiorRows_getD : ∀ (xs ys : List F) (_ : ys.length = xs.length) (i : Nat) (_ : i + 2 < xs.length),
    (interiorRows xs ys)[i]? =
      some (interiorRow (xs.getD i 0) (xs.getD (i + 1) 0) (xs.getD (i + 2) 0)
        (ys.getD i 0) (ys.getD (i + 1) 0) (ys.getD (i + 2) 0))
  | x0 :: x1 :: x2 :: xs, y0 :: y1 :: y2 :: ys, _, 0, _ => by rw [interiorRows_cons]; rfl
  | x0 :: x1 :: x2 :: xs, y0 :: y1 :: y2 :: ys, hl, i + 1, hi =>
    interiorRows_getD (x1 :: x2 :: xs) (y1 :: y2 :: ys) (Nat.succ.inj hl) i (Nat.lt_of_succ_lt_succ hi)

theorem interiorRows_eq_some (xs ys : List F) (hl : ys.length = xs.length) (i : Nat) (r : Row F F) :
    (interiorRows xs ys)[i]? = some r ↔
      interiorRow (xs.getD i 0) (xs.getD (i + 1) 0) (xs.getD (i + 2) 0)
        (ys.getD i 0) (ys.getD (i + 1) 0) (ys.getD (i + 2) 0) = r ∧ i + 2 < xs.length := by
  by_cases hi : i + 2 < xs.length
  · rw [interiorRows_getD xs ys hl i hi, Option.some.injEq, and_iff_left hi]
  · rw [List.getElem?_eq_none (by rw [interiorRows_length xs ys hl]; omega)]
    simp [hi]

def endsOf (xs ys : List F) (hl : ys.length = xs.length) (hn : 3 ≤ xs.length) : Ends F F :=
  { x0 := xs[0], x1 := xs[1], x2 := xs[2]
    xl1 := xs[xs.length - 1], xl2 := xs[xs.length - 2], xl3 := xs[xs.length - 3]
    y0 := ys[0], y1 := ys[1], y2 := ys[2]
    yl1 := ys[xs.length - 1]'(by omega), yl2 := ys[xs.length - 2]'(by omega)
    yl3 := ys[xs.length - 3]'(by omega) }

omit [Field F] in
theorem getEnds_eq (xs ys : List F) (hl : ys.length = xs.length) (hn : 3 ≤ xs.length) :
    getEnds xs ys = .ok (endsOf xs ys hl hn) := by
  simp (disch := omega) only [getEnds, endsOf, hl, rd_eq, bind, Except.bind, pure, Except.pure]

/-! the first and the last interior row, in the quantities the boundary rows are written in -/

theorem interiorRows_head (xs ys : List F) (hl : ys.length = xs.length) (hn : 3 ≤ xs.length) :
    (interiorRows xs ys).head? =
      some (let e := endsOf xs ys hl hn; interiorRow e.x0 e.x1 e.x2 e.y0 e.y1 e.y2) := by
  rw [List.head?_eq_getElem?]
  simp only [endsOf, getElem_eq_getD0]
  exact interiorRows_getD xs ys hl 0 hn

theorem interiorRows_getLast (xs ys : List F) (hl : ys.length = xs.length) (hn : 3 ≤ xs.length) :
    (interiorRows xs ys).getLast? =
      some (let e := endsOf xs ys hl hn; interiorRow e.xl3 e.xl2 e.xl1 e.yl3 e.yl2 e.yl1) := by
  obtain ⟨m, hm⟩ : ∃ m, xs.length = m + 3 := ⟨xs.length - 3, by omega⟩
  rw [List.getLast?_eq_getElem?, interiorRows_length xs ys hl]
  simp only [endsOf, getElem_eq_getD0, hm]
  exact interiorRows_getD xs ys hl m (by omega)

/-- what `solveForK` hands to `thomas` for a non-periodic boundary pair (`solveForK_mixed`) -/
def sysRows (xs ys : List F) (hl : ys.length = xs.length) (hn : 3 ≤ xs.length)
    (left right : SingleBoundary F) : List (Row F F) :=
  if xs.length = 3 ∧ isNakPair left right = true then parabolaRows (endsOf xs ys hl hn)
  else
    match firstRow (endsOf xs ys hl hn) left.specialize,
      lastRow (endsOf xs ys hl hn) right.specialize with
    | some f, some l => f :: interiorRows xs ys ++ [l]
    | _, _ => []

/-- after `specialize` three kinds of end condition remain -/
theorem SingleBoundary.specialize_cases (b : SingleBoundary F) :
    b = .notAKnot ∨ (∃ v, b.specialize = .firstDeriv v) ∨ ∃ v, b.specialize = .secondDeriv v := by
  cases b
  exacts [.inl rfl, .inr (.inr ⟨_, rfl⟩), .inr (.inl ⟨_, rfl⟩), .inr (.inl ⟨_, rfl⟩), .inr (.inr ⟨_, rfl⟩)]

theorem firstRow_some (e : Ends F F) (b : SingleBoundary F) : ∃ f, firstRow e b.specialize = some f := by
  cases b <;> exact ⟨_, rfl⟩

theorem lastRow_some (e : Ends F F) (b : SingleBoundary F) : ∃ l, lastRow e b.specialize = some l := by
  cases b <;> exact ⟨_, rfl⟩

section
variable (xs ys : List F) (hl : ys.length = xs.length) (hn : 3 ≤ xs.length) (left right : SingleBoundary F)

theorem sysRows_parabola (hpar : xs.length = 3 ∧ isNakPair left right = true) :
    sysRows xs ys hl hn left right = parabolaRows (endsOf xs ys hl hn) := if_pos hpar

theorem sysRows_general (hpar : ¬ (xs.length = 3 ∧ isNakPair left right = true)) :
    ∃ f l, firstRow (endsOf xs ys hl hn) left.specialize = some f ∧
      lastRow (endsOf xs ys hl hn) right.specialize = some l ∧
      sysRows xs ys hl hn left right = f :: interiorRows xs ys ++ [l] := by
  obtain ⟨f, hf⟩ := firstRow_some (endsOf xs ys hl hn) left
  obtain ⟨l, hlr⟩ := lastRow_some (endsOf xs ys hl hn) right
  refine ⟨f, l, hf, hlr, ?_⟩
  rw [sysRows, if_neg hpar, hf, hlr]

theorem sysRows_length : (sysRows xs ys hl hn left right).length = xs.length := by
  by_cases hpar : xs.length = 3 ∧ isNakPair left right = true
  · rw [sysRows_parabola xs ys hl hn left right hpar, hpar.1]
    rfl
  · obtain ⟨f, l, -, -, e⟩ := sysRows_general xs ys hl hn left right hpar
    simp only [e, List.length_append, List.length_cons, List.length_nil, interiorRows_length xs ys hl]
    omega

end

section pivots
variable [LinearOrder F] [IsStrictOrderedRing F]

theorem interiorRow_dom (x0 x1 x2 y0 y1 y2 : F) (h1 : x0 < x1) (h2 : x1 < x2) :
    Dom (interiorRow x0 x1 x2 y0 y1 y2) :=
  ⟨(sub_pos.mpr h2).le, (sub_pos.mpr h1).le, lt_two_mul_self (add_pos (sub_pos.mpr h2) (sub_pos.mpr h1))⟩

theorem interiorRows_dom (xs ys : List F) (hl : ys.length = xs.length) (hs : StrictInc xs) :
    ∀ r ∈ interiorRows xs ys, Dom r := by
  intro r hr
  obtain ⟨i, hr⟩ := List.mem_iff_getElem?.mp hr
  obtain ⟨rfl, hi⟩ := (interiorRows_eq_some xs ys hl i r).mp hr
  exact interiorRow_dom _ _ _ _ _ _ (hs.getD_lt_succ (Nat.lt_of_succ_lt hi)) (hs.getD_lt_succ hi)

theorem StrictInc.sub_pos {xs : List F} (hs : StrictInc xs) {i j : ℕ} (hij : i < j) (hj : j < xs.length) :
    0 < xs[j] - xs[i]'(by omega) := _root_.sub_pos.mpr (hs.2 i j hij hj)

theorem StrictInc.sub_ne_zero {xs : List F} (hs : StrictInc xs) {i j : ℕ} (hij : i < j) (hj : j < xs.length) :
    xs[j] - xs[i]'(by omega) ≠ 0 := (hs.sub_pos hij hj).ne'

theorem endsOf_pos (xs ys : List F) (hl : ys.length = xs.length) (hn : 3 ≤ xs.length) (hs : StrictInc xs) :
    0 < (endsOf xs ys hl hn).dx0 ∧ 0 < (endsOf xs ys hl hn).dx1 ∧
      0 < (endsOf xs ys hl hn).dxl1 ∧ 0 < (endsOf xs ys hl hn).dxl2 :=
  ⟨hs.sub_pos (by omega) (by omega), hs.sub_pos (by omega) (by omega), hs.sub_pos (by omega) (by omega),
    hs.sub_pos (by omega) (by omega)⟩

/-- an end row other than NotAKnot is dominant -/
theorem firstRow_dom (e : Ends F F) (h0 : 0 < e.dx0) {b : SingleBoundary F} (hb : b ≠ .notAKnot)
    {f : Row F F} (hf : firstRow e b.specialize = some f) : Dom f := by
  rcases b.specialize_cases with rfl | ⟨v, h⟩ | ⟨v, h⟩
  · exact absurd rfl hb
  · rw [h] at hf
    obtain rfl := Option.some.inj hf
    exact ⟨(c0_eq (F := F)).ge, (c0_eq (F := F)).ge, by rw [c0_eq, c1_eq, add_zero]; exact zero_lt_one⟩
  · rw [h] at hf
    obtain rfl := Option.some.inj hf
    exact ⟨(c0_eq (F := F)).ge, h0.le, by rw [c0_eq, c2_eq, zero_add]; exact lt_two_mul_self h0⟩

theorem lastRow_dom (e : Ends F F) (h1 : 0 < e.dxl1) {b : SingleBoundary F} (hb : b ≠ .notAKnot)
    {l : Row F F} (hlr : lastRow e b.specialize = some l) : Dom l := by
  rcases b.specialize_cases with rfl | ⟨v, h⟩ | ⟨v, h⟩
  · exact absurd rfl hb
  · rw [h] at hlr
    obtain rfl := Option.some.inj hlr
    exact ⟨(c0_eq (F := F)).ge, (c0_eq (F := F)).ge, by rw [c0_eq, c1_eq, add_zero]; exact zero_lt_one⟩
  · rw [h] at hlr
    obtain rfl := Option.some.inj hlr
    exact ⟨h1.le, (c0_eq (F := F)).ge, by rw [c0_eq, c2_eq, add_zero]; exact lt_two_mul_self h1⟩

theorem sweep_to_last (e : Ends F F) (hd1 : 0 < e.dxl1) (hd2 : 0 < e.dxl2)
    (right : SingleBoundary F) (l : Row F F) (hlr : lastRow e right.specialize = some l)
    (D : List (Row F F)) (hD : ∀ r ∈ D, Dom r)
    (hDl : right = .notAKnot →
      D.getLast? = some (interiorRow e.xl3 e.xl2 e.xl1 e.yl3 e.yl2 e.yl1))
    (pm pu pr : F) (hi : SweepInv pm pu) :
    PivPos (fwd pm pu pr (D ++ [l])) := by
  by_cases hn : right = .notAKnot
  · -- NotAKnot: `lo = dxl1 + dxl2 > mid = dxl2`, but the row before is the last interior row, which leaves
    -- `pu' = dxl2` and `pm' ≥ dxl1 + 2 dxl2 > lo`
    obtain ⟨D', rfl⟩ := List.getLast?_eq_some_iff.mp (hDl hn)
    subst hn
    obtain rfl := Option.some.inj hlr
    rw [List.append_assoc]
    refine pivPos_fwd_last D' _ _ pm pu pr hi hD fun pm' hpm => ?_
    simp only [interiorRow, Ends.dxl1, Ends.dxl2] at hpm hd1 hd2 ⊢
    have : (e.xl1 - e.xl3) / pm' < 1 := (div_lt_one (by linarith)).mpr (by linarith)
    exact sub_pos.mpr ((mul_lt_mul_of_pos_right this hd2).trans_eq (one_mul _))
  · exact pivPos_fwd _ pm pu pr hi
      (List.forall_mem_append.mpr ⟨hD, List.forall_mem_singleton.mpr (lastRow_dom e hd1 hn hlr)⟩)

/-- all pivots are positive, over an `Ends` record: the boundary rows of `e` around dominant rows `I` that
    begin and end with the interior rows `e` describes -/
theorem pivPos_of_ends (e : Ends F F) (hdx0 : 0 < e.dx0) (hdx1 : 0 < e.dx1) (hd1 : 0 < e.dxl1)
    (hd2 : 0 < e.dxl2) (I : List (Row F F)) (hI : ∀ r ∈ I, Dom r)
    (hhead : I.head? = some (interiorRow e.x0 e.x1 e.x2 e.y0 e.y1 e.y2))
    (hlast : I.getLast? = some (interiorRow e.xl3 e.xl2 e.xl1 e.yl3 e.yl2 e.yl1))
    (left right : SingleBoundary F) (hpar : ¬ (I.length = 1 ∧ isNakPair left right = true))
    (f l : Row F F) (hf : firstRow e left.specialize = some f)
    (hlr : lastRow e right.specialize = some l) :
    PivPos (fwdAll (f :: I ++ [l])) := by
  by_cases hn : left = .notAKnot
  · -- NotAKnot: the first row `(dx1, dx0 + dx1)` is not dominant, but eliminating it from the first
    -- interior row `(dx1, 2 (dx0 + dx1), dx0)` leaves the state `(dx0 + dx1, dx0)`
    subst hn
    obtain rfl := Option.some.inj hf
    obtain ⟨rest, rfl⟩ := List.head?_eq_some_iff.mp hhead
    simp only [Ends.dx0, Ends.dx1] at hdx0 hdx1
    have hm1 : 2 * (e.x2 - e.x1 + (e.x1 - e.x0)) - (e.x2 - e.x1) / (e.x2 - e.x1) * (e.x2 - e.x0) =
        (e.x1 - e.x0) + (e.x2 - e.x1) := by rw [div_self hdx1.ne']; ring
    simp only [List.cons_append, fwdAll, fwd, PivPos, interiorRow, Ends.dx1, hm1]
    refine ⟨hdx1, add_pos hdx0 hdx1, ?_⟩
    apply sweep_to_last e hd1 hd2 right l hlr rest (fun r hr => hI r (List.mem_cons_of_mem _ hr))
    · rintro rfl
      cases rest with
      | nil => exact absurd ⟨rfl, rfl⟩ hpar
      | cons r2 rest' => rwa [List.getLast?_cons_cons] at hlast
    · exact ⟨hdx0.le, lt_add_of_pos_right _ hdx1⟩
  · have h := (firstRow_dom e hdx0 hn hf).sweepInv
    exact ⟨h.pos, sweep_to_last e hd1 hd2 right l hlr I hI (fun _ => hlast) _ _ _ h⟩

/-- `hpar`: the 3-point NotAKnot/NotAKnot case is the separate parabola system -/
theorem sys_pivPos (xs ys : List F) (hl : ys.length = xs.length) (hn : 3 ≤ xs.length)
    (hs : StrictInc xs) (left right : SingleBoundary F)
    (hpar : ¬ (xs.length = 3 ∧ isNakPair left right = true))
    (f l : Row F F)
    (hf : firstRow (endsOf xs ys hl hn) left.specialize = some f)
    (hlr : lastRow (endsOf xs ys hl hn) right.specialize = some l) :
    PivPos (fwdAll (f :: interiorRows xs ys ++ [l])) := by
  obtain ⟨h0, h1, h2, h3⟩ := endsOf_pos xs ys hl hn hs
  refine pivPos_of_ends _ h0 h1 h2 h3 _ (interiorRows_dom xs ys hl hs) (interiorRows_head xs ys hl hn)
    (interiorRows_getLast xs ys hl hn) left right ?_ f l hf hlr
  rw [interiorRows_length xs ys hl]
  exact fun h => hpar ⟨by omega, h.2⟩

theorem parabola_pivPos (xs ys : List F) (hl : ys.length = xs.length) (hn : 3 ≤ xs.length)
    (hs : StrictInc xs) : PivPos (fwdAll (parabolaRows (endsOf xs ys hl hn))) := by
  obtain ⟨hdx0, hdx1, -, -⟩ := endsOf_pos xs ys hl hn hs
  generalize endsOf xs ys hl hn = e at hdx0 hdx1 ⊢
  simp only [parabolaRows, fwdAll, fwd, PivPos, c0_eq, c1_eq, c2_eq, map2_scalar, map1_scalar,
    and_true, div_one, mul_one]
  refine ⟨by norm_num, by linarith, ?_⟩
  have hp : 0 < 2 * (e.dx0 + e.dx1) - e.dx1 := by linarith
  rw [sub_pos, div_mul_eq_mul_div, div_lt_one hp]
  linarith

/-- whichever system `solveForK` assembles: the parabola rows or the general ones -/
theorem solve_pivPos (xs ys : List F) (hl : ys.length = xs.length) (hn : 3 ≤ xs.length)
    (hs : StrictInc xs) (left right : SingleBoundary F) : PivPos (fwdAll (sysRows xs ys hl hn left right)) := by
  by_cases hpar : xs.length = 3 ∧ isNakPair left right = true
  · rw [sysRows_parabola xs ys hl hn left right hpar]
    exact parabola_pivPos xs ys hl hn hs
  · obtain ⟨f, l, hf, hlr, e⟩ := sysRows_general xs ys hl hn left right hpar
    rw [e]
    exact sys_pivPos xs ys hl hn hs left right hpar f l hf hlr

end pivots

section solve

/-- `solve_for_k` once the length check has passed and the end values are read: the branch of the specialised
    boundary (any lanes, arbitrary operations) -/
theorem solveForK_of_ends {α V : Type} [Add α] [Sub α] [Mul α] [Div α] [Neg α] [NatCast α] [Lanes α V]
    [Cmp α] (xs : List α) (ys : List V) (b : InternalBoundary α) {e : Ends α V}
    (hlen : 3 ≤ ys.length ∧ xs.length = ys.length) (he : getEnds xs ys = .ok e) :
    solveForK xs ys b =
      match b.specialize with
      | .periodic =>
        if Lanes.all2 Cmp.eq e.y0 e.yl1 = true then
          if ys.length = 3 then .ok (periodic3 e) else rd xs (ys.length - 4) >>= periodicN xs ys e
        else .error (.builder .valueError)
      | .mixed left right =>
        if ys.length = 3 ∧ isNakPair left right = true then .ok (thomas (parabolaRows e))
        else
          match firstRow e left.specialize, lastRow e right.specialize with
          | some f, some l => .ok (thomas (f :: interiorRows xs ys ++ [l]))
          | _, _ => .error .panic
      | _ => .error .panic := by
  unfold solveForK
  simp only [hlen, and_self, not_true_eq_false, if_false, he, bind, Except.bind]
  cases b.specialize with
  | periodic => cases Lanes.all2 Cmp.eq e.y0 e.yl1 <;> rfl
  | mixed left right => simp only [Bool.and_eq_true, decide_eq_true_eq]; rfl
  | _ => rfl

variable [Cmp F]

theorem solveForK_mixed (xs ys : List F) (hl : ys.length = xs.length) (hn : 3 ≤ xs.length)
    (left right : SingleBoundary F) :
    solveForK (V := F) xs ys (.mixed left right) = .ok (thomas (sysRows xs ys hl hn left right)) := by
  rw [solveForK_of_ends xs ys _ ⟨hl ▸ hn, hl.symm⟩ (getEnds_eq xs ys hl hn)]
  simp only [InternalBoundary.specialize, hl]
  by_cases hpar : xs.length = 3 ∧ isNakPair left right = true
  · rw [if_pos hpar, sysRows_parabola xs ys hl hn left right hpar]
  · obtain ⟨f, l, hf, hlr, e⟩ := sysRows_general xs ys hl hn left right hpar
    rw [if_neg hpar, e, hf, hlr]

variable [LinearOrder F] [IsStrictOrderedRing F]

theorem solveForK_spec (xs ys : List F) (hl : ys.length = xs.length) (hn : 3 ≤ xs.length)
    (hs : StrictInc xs) (left right : SingleBoundary F) :
    ∃ ks, solveForK (V := F) xs ys (.mixed left right) = .ok ks ∧ ks.length = xs.length ∧
      RowsSat (sysRows xs ys hl hn left right) ks ∧
      ∀ ks', RowsSat (sysRows xs ys hl hn left right) ks' → ks' = ks := by
  have hp := (solve_pivPos xs ys hl hn hs left right).pivOK
  refine ⟨_, solveForK_mixed xs ys hl hn left right, ?_, ?_, ?_⟩
  · rw [thomas_length, sysRows_length]
  · exact rowsSat_thomas hp
  · intro ks' h
    exact thomas_unique _ hp ks' ((fullSat_iff_rowsSat _ _).mpr h)

end solve

end NdInterp
