/-
The standard model of floating-point arithmetic, as far as the rounding theorems (C01, C02, C04, C06, C07, C11) need it:
every operation returns `exact·(1+δ)` with `|δ| ≤ u ≤ 1/16`.  One rounded operation turns the absolute error `e` of its
operand into `e(1+u) + |x|u` (`fl_err`); `absorb` (`u·w ≤ w/16`) turns the second-order terms of an error chain into a share
of the first-order ones; `theta_bound` is the relative error of `calc_frac`'s slope times offset and of the spline's local
coordinate.
-/
import Mathlib.Tactic.Positivity
import Mathlib.Tactic.GCongr
import Mathlib.Tactic.Linarith
import Mathlib.Tactic.Ring
import Mathlib.Algebra.Order.Field.Basic
import Mathlib.Algebra.Order.AbsoluteValue.Basic

namespace NdInterp

section
variable {F : Type} [Field F] [LinearOrder F] [IsStrictOrderedRing F]

theorem unit_coord {x1 x2 x : F} (hx : x1 < x2) (h1 : x1 ≤ x) (h2 : x ≤ x2) :
    0 ≤ (x - x1) / (x2 - x1) ∧ (x - x1) / (x2 - x1) ≤ 1 :=
  ⟨div_nonneg (sub_nonneg.mpr h1) (sub_pos.mpr hx).le,
    (div_le_one (sub_pos.mpr hx)).mpr (sub_le_sub_right h2 x1)⟩

theorem convex_mem {t a b lo hi : F} (ht0 : 0 ≤ t) (ht1 : t ≤ 1) (ha : lo ≤ a ∧ a ≤ hi) (hb : lo ≤ b ∧ b ≤ hi) :
    lo ≤ (1 - t) * a + t * b ∧ (1 - t) * a + t * b ≤ hi := by
  have hs := sub_nonneg.mpr ht1
  constructor
  · calc lo = (1 - t) * lo + t * lo := by ring
      _ ≤ _ := add_le_add (mul_le_mul_of_nonneg_left ha.1 hs) (mul_le_mul_of_nonneg_left hb.1 ht0)
  · calc _ ≤ (1 - t) * hi + t * hi := add_le_add (mul_le_mul_of_nonneg_left ha.2 hs) (mul_le_mul_of_nonneg_left hb.2 ht0)
      _ = hi := by ring

theorem abs_le_add_of_sub {x x' e X : F} (h : |x' - x| ≤ e) (hX : |x| ≤ X) : |x'| ≤ X + e := by
  have := abs_sub_abs_le_abs_sub x' x
  linarith

theorem abs_one_add_le {d u : F} (hd : |d| ≤ u) : |1 + d| ≤ 1 + u :=
  (abs_add_le 1 d).trans (by rw [abs_one]; exact add_le_add_right hd 1)

theorem one_add_mem {d u : F} (h : |d| ≤ u) : 1 - u ≤ 1 + d ∧ 1 + d ≤ 1 + u := by
  obtain ⟨h1, h2⟩ := abs_le.mp h
  constructor <;> linarith

theorem mul_mem {l h l' h' a b : F} (h0 : 0 ≤ l) (h0' : 0 ≤ l') (ha : l ≤ a ∧ a ≤ h) (hb : l' ≤ b ∧ b ≤ h') :
    l * l' ≤ a * b ∧ a * b ≤ h * h' :=
  ⟨mul_le_mul ha.1 hb.1 h0' (h0.trans ha.1), mul_le_mul ha.2 hb.2 (h0'.trans hb.1) ((h0.trans ha.1).trans ha.2)⟩

theorem absorb {u w : F} (hu : u ≤ 1/16) (hw : 0 ≤ w) : u * w ≤ w / 16 := by
  have := mul_le_mul_of_nonneg_right hu hw
  linarith

theorem abs_mul_le {a b A B : F} (ha : |a| ≤ A) (hb : |b| ≤ B) : |a * b| ≤ A * B := by
  rw [abs_mul]
  exact mul_le_mul ha hb (abs_nonneg _) ((abs_nonneg _).trans ha)

theorem fl_err {x x' d e X u : F} (hx : |x' - x| ≤ e) (hX : |x| ≤ X) (hd : |d| ≤ u) :
    |x' * (1 + d) - x| ≤ e * (1 + u) + X * u :=
  calc |x' * (1 + d) - x| = |(x' - x) * (1 + d) + x * d| := congrArg _ (by ring)
    _ ≤ |(x' - x) * (1 + d)| + |x * d| := abs_add_le _ _
    _ ≤ e * (1 + u) + X * u := add_le_add (abs_mul_le hx (abs_one_add_le hd)) (abs_mul_le hX hd)

theorem fl_mul (x x' y y' d ex ey X Y u : F) (hx : |x' - x| ≤ ex) (hy : |y' - y| ≤ ey) (hX : |x| ≤ X) (hY : |y| ≤ Y)
    (hd : |d| ≤ u) :
    |x' * y' * (1 + d) - x * y| ≤ (X * ey + Y * ex + ex * ey) * (1 + u) + X * Y * u := by
  refine fl_err ?_ (abs_mul_le hX hY) hd
  calc |x' * y' - x * y| = |x * (y' - y) + y * (x' - x) + (x' - x) * (y' - y)| := congrArg _ (by ring)
    _ ≤ |x * (y' - y)| + |y * (x' - x)| + |(x' - x) * (y' - y)| := abs_add_three _ _ _
    _ ≤ X * ey + Y * ex + ex * ey :=
        add_le_add (add_le_add (abs_mul_le hX hy) (abs_mul_le hY hx)) (abs_mul_le hx hy)

theorem fl_add (x x' y y' d ex ey X Y u : F) (hx : |x' - x| ≤ ex) (hy : |y' - y| ≤ ey) (hX : |x| ≤ X) (hY : |y| ≤ Y)
    (hd : |d| ≤ u) :
    |(x' + y') * (1 + d) - (x + y)| ≤ (ex + ey) * (1 + u) + (X + Y) * u := by
  refine fl_err ?_ ((abs_add_le _ _).trans (add_le_add hX hY)) hd
  calc |x' + y' - (x + y)| = |(x' - x) + (y' - y)| := by rw [add_sub_add_comm]
    _ ≤ ex + ey := (abs_add_le _ _).trans (add_le_add hx hy)

theorem abs_div_sub_one_le {p q e : F} (hq : 0 < q) (lo : (1 - e) * q ≤ p) (hi : p ≤ (1 + e) * q) : |p / q - 1| ≤ e := by
  have := (le_div_iff₀ hq).mpr lo
  have := (div_le_iff₀ hq).mpr hi
  rw [abs_le]
  constructor <;> linarith

theorem pow4_bounds {u : F} (hu0 : 0 ≤ u) (hu : u ≤ 1/16) :
    (1 - 6 * u) * (1 + u) ≤ (1 - u) * (1 - u) * (1 - u) * (1 - u) ∧
      (1 + u) * (1 + u) * (1 + u) * (1 + u) ≤ (1 + 6 * u) * (1 - u) := by
  have u2 := absorb hu hu0
  have u3 := absorb hu (mul_nonneg hu0 hu0)
  have u30 := mul_nonneg hu0 (mul_nonneg hu0 hu0)
  -- the difference of the two sides of each inequality, factored
  have n1 : 0 ≤ u * (1 + 12 * u - 4 * (u * u) + u * (u * u)) := mul_nonneg hu0 (by linarith)
  have n2 : 0 ≤ u * (1 - 12 * u - 4 * (u * u) - u * (u * u)) := mul_nonneg hu0 (by linarith)
  constructor
  · rw [← sub_nonneg]; convert n1 using 1; ring
  · rw [← sub_nonneg]; convert n2 using 1; ring

/-- five factors give `5u` to first order; the sixth `u` pays for the higher-order terms while `u ≤ 1/16` (`pow4_bounds`) -/
theorem theta_bound (u d1 d2 d3 d4 d5 : F) (hu0 : 0 ≤ u) (hu : u ≤ 1/16)
    (h1 : |d1| ≤ u) (h2 : |d2| ≤ u) (h3 : |d3| ≤ u) (h4 : |d4| ≤ u) (h5 : |d5| ≤ u) :
    |(1 + d1) * (1 + d3) * (1 + d4) * (1 + d5) / (1 + d2) - 1| ≤ 6 * u := by
  have hu1 : 0 ≤ 1 - u := by linarith
  have m13 := mul_mem hu1 hu1 (one_add_mem h1) (one_add_mem h3)
  have m134 := mul_mem (mul_nonneg hu1 hu1) hu1 m13 (one_add_mem h4)
  have m := mul_mem (mul_nonneg (mul_nonneg hu1 hu1) hu1) hu1 m134 (one_add_mem h5)
  obtain ⟨l2, r2⟩ := one_add_mem h2
  obtain ⟨b1, b2⟩ := pow4_bounds hu0 hu
  exact abs_div_sub_one_le (lt_of_lt_of_le (by linarith) l2)
    ((mul_le_mul_of_nonneg_left r2 (by linarith)).trans (b1.trans m.1))
    (m.2.trans (b2.trans (mul_le_mul_of_nonneg_left l2 (by linarith))))

end

end NdInterp
