/-
Two identities of the Thomas algorithm, valid in every field with no condition on the pivots: rescaling
(`thomas_rescale`) and superposition (`thomas_add`).  Every statement of C15 about the non-periodic spline is one
of the two applied to the assembled rows.
-/
import NdInterp.Lemmas.Thomas

namespace NdInterp

variable {F : Type} [Field F]

def scaleRow (c : F) (r : Row F F) : Row F F := { r with rhs := c * r.rhs }

theorem div_mul_cancel_common {a : F} (ha : a ≠ 0) (x p z : F) : x / (a * p) * (a * z) = x / p * z := by
  rw [div_mul_eq_mul_div, mul_left_comm, mul_div_mul_left _ _ ha, mul_div_right_comm]

/-- `r'` is the equation `r`, multiplied through by some `a ≠ 0`, written for an unknown `t` times as large -/
def RowRel (t : F) (r' r : Row F F) : Prop :=
  ∃ a, a ≠ 0 ∧ r'.lo = a * r.lo ∧ r'.mid = a * r.mid ∧ r'.up = a * r.up ∧ r'.rhs = a * (t * r.rhs)

def ERowRel (t : F) (e' e : ERow F F) : Prop :=
  ∃ a, a ≠ 0 ∧ e'.mid = a * e.mid ∧ e'.up = a * e.up ∧ e'.rhs = a * (t * e.rhs)

theorem RowRel.rhs {t : F} {r' r : Row F F} (lo : r'.lo = r.lo) (mid : r'.mid = r.mid) (up : r'.up = r.up)
    (rhs : r'.rhs = t * r.rhs) : RowRel t r' r :=
  ⟨1, one_ne_zero, by simp [lo], by simp [mid], by simp [up], by simp [rhs]⟩

/-- an equation between quantities `c` times as large, for an unknown `t / c` times as large -/
theorem RowRel.mul {c t : F} (hc : c ≠ 0) {r' r : Row F F} (lo : r'.lo = c * r.lo) (mid : r'.mid = c * r.mid)
    (up : r'.up = c * r.up) (rhs : r'.rhs = t * r.rhs) : RowRel (t / c) r' r :=
  ⟨c, hc, lo, mid, up, by rw [rhs, ← mul_assoc, mul_div_cancel₀ _ hc]⟩

theorem fwd_rescale (t : F) {rows' rows : List (Row F F)} (h : List.Forall₂ (RowRel t) rows' rows)
    (a pm pu pr : F) (ha : a ≠ 0) :
    List.Forall₂ (ERowRel t) (fwd (a * pm) (a * pu) (a * (t * pr)) rows') (fwd pm pu pr rows) := by
  induction h generalizing a pm pu pr with
  | nil => exact .nil
  | @cons r' r _ _ hr _ ih =>
    obtain ⟨b, hb, h1, h2, h3, h4⟩ := hr
    -- the multiplier `a` of the row above cancels in `w · (entry of the row above)`
    have e1 : b * r.mid - b * r.lo / (a * pm) * (a * pu) = b * (r.mid - r.lo / pm * pu) := by
      rw [div_mul_cancel_common ha]; ring
    have e2 : b * (t * r.rhs) - b * r.lo / (a * pm) * (a * (t * pr)) =
        b * (t * (r.rhs - r.lo / pm * pr)) := by
      rw [div_mul_cancel_common ha]; ring
    simp only [fwd_cons, h1, h2, h3, h4, e1, e2]
    exact .cons ⟨b, hb, rfl, rfl, rfl⟩ (ih b _ _ _ hb)

theorem headD_map_mul (t : F) (l : List F) : (l.map (t * ·)).headD 0 = t * l.headD 0 := by
  cases l with
  | nil => exact (mul_zero t).symm
  | cons _ _ => rfl

theorem back_rescale (t : F) {es' es : List (ERow F F)} (h : List.Forall₂ (ERowRel t) es' es) :
    back es' = (back es).map (t * ·) := by
  induction h with
  | nil => rfl
  | @cons e' e _ _ he _ ih =>
    obtain ⟨a, ha, h1, h2, h3⟩ := he
    rw [back_cons, back_cons, ih, List.map_cons, headD_map_mul, h1, h2, h3,
      show a * (t * e.rhs) - a * e.up * (t * (back _).headD 0) = a * (t * (e.rhs - e.up * (back _).headD 0)) by ring,
      mul_div_mul_left _ _ ha, mul_div_assoc]

/-- the solve does not see a rescaling of single equations, and is homogeneous in the right-hand sides -/
theorem thomas_rescale (t : F) {rows' rows : List (Row F F)} (h : List.Forall₂ (RowRel t) rows' rows) :
    thomas rows' = (thomas rows).map (t * ·) := by
  have := fwd_rescale t h 1 1 0 0 one_ne_zero
  rw [one_mul, one_mul, mul_zero, mul_zero] at this
  rw [thomas, thomas, fwdAll_eq_fwd, fwdAll_eq_fwd]
  exact back_rescale t this

def SameDiag : List (Row F F) → List (Row F F) → Prop
  | [], [] => True
  | r :: rs, s :: ss => r.lo = s.lo ∧ r.mid = s.mid ∧ r.up = s.up ∧ SameDiag rs ss
  | _, _ => False

def addRow (r s : Row F F) : Row F F := { r with rhs := r.rhs + s.rhs }
def addERow (r s : ERow F F) : ERow F F := { r with rhs := r.rhs + s.rhs }

def SameE (e f : ERow F F) : Prop := e.mid = f.mid ∧ e.up = f.up

theorem fwd_add : ∀ (pm pu p1 p2 : F) (rows1 rows2 : List (Row F F)), SameDiag rows1 rows2 →
    fwd pm pu (p1 + p2) (List.zipWith addRow rows1 rows2) =
      List.zipWith addERow (fwd pm pu p1 rows1) (fwd pm pu p2 rows2) ∧
    List.Forall₂ SameE (fwd pm pu p1 rows1) (fwd pm pu p2 rows2)
  | _, _, _, _, [], [], _ => ⟨rfl, .nil⟩
  | pm, pu, p1, p2, r :: rest, s :: ss, ⟨h1, h2, h3, h4⟩ => by
    have ih := fwd_add (r.mid - r.lo / pm * pu) r.up (r.rhs - r.lo / pm * p1) (s.rhs - r.lo / pm * p2) rest ss h4
    simp only [List.zipWith_cons_cons, fwd_cons, addRow, addERow, ← h1, ← h2, ← h3]
    rw [show r.rhs + s.rhs - r.lo / pm * (p1 + p2) = (r.rhs - r.lo / pm * p1) + (s.rhs - r.lo / pm * p2) by ring,
      ih.1]
    exact ⟨rfl, .cons ⟨rfl, rfl⟩ ih.2⟩

theorem headD_zipWith_add : ∀ (a b : List F), a.length = b.length →
    (List.zipWith (· + ·) a b).headD 0 = a.headD 0 + b.headD 0
  | [], [], _ => (add_zero 0).symm
  | _ :: _, _ :: _, _ => rfl

theorem back_add {es1 es2 : List (ERow F F)} (h : List.Forall₂ SameE es1 es2) :
    back (List.zipWith addERow es1 es2) = List.zipWith (· + ·) (back es1) (back es2) := by
  induction h with
  | nil => rfl
  | @cons e f es fs hm hes ih =>
    rw [List.zipWith_cons_cons, back_cons, back_cons, back_cons, ih, List.zipWith_cons_cons,
      headD_zipWith_add _ _ (by rw [back_length, back_length, hes.length_eq])]
    congr 1
    simp only [addERow, ← hm.1, ← hm.2]
    ring

theorem thomas_add (rows1 rows2 : List (Row F F)) (h : SameDiag rows1 rows2) :
    thomas (List.zipWith addRow rows1 rows2) = List.zipWith (· + ·) (thomas rows1) (thomas rows2) := by
  have := fwd_add 1 0 0 0 rows1 rows2 h
  rw [add_zero] at this
  rw [thomas, thomas, thomas, fwdAll_eq_fwd, fwdAll_eq_fwd, fwdAll_eq_fwd, this.1]
  exact back_add this.2

end NdInterp
