/-
Views: writing through a view with injective addressing puts exactly the written values at
the view's logical positions and touches nothing else; the per-element loop over sub-views is
one write of the concatenated rows.
-/
import NdInterp.Model.View

namespace NdInterp

variable {α : Type}

theorem writeAddrs_frame (a : Int) : ∀ (m : Int → α) (as : List Int) (vals : List α),
    a ∉ as → writeAddrs m as vals a = m a
  | _, [], _, _ => rfl
  | _, _ :: _, [], _ => rfl
  | _, x :: as, _ :: vs, h => by
    rw [writeAddrs, writeAddrs_frame a _ as vs (fun hh => h (List.mem_cons_of_mem _ hh)),
      if_neg (fun e : a = x => h (e ▸ List.mem_cons_self))]

theorem writeAddrs_read : ∀ (m : Int → α) (as : List Int) (vals : List α),
    as.Nodup → vals.length = as.length → as.map (writeAddrs m as vals) = vals
  | _, [], [], _, _ => rfl
  | _, x :: as, v :: vs, hn, hl => by
    have ⟨hx, hn⟩ := List.nodup_cons.mp hn
    rw [List.map_cons, writeAddrs, writeAddrs_frame x _ as vs hx, if_pos rfl,
      writeAddrs_read _ as vs hn (Nat.succ.inj hl)]
  | _, [], _ :: _, _, hl => nomatch hl
  | _, _ :: _, [], _, hl => nomatch hl

theorem writeAddrs_append (bs : List Int) (ws : List α) :
    ∀ (m : Int → α) (as : List Int) (vs : List α), vs.length = as.length →
    writeAddrs m (as ++ bs) (vs ++ ws) = writeAddrs (writeAddrs m as vs) bs ws
  | _, [], [], _ => rfl
  | _, _ :: as, _ :: vs, hl => writeAddrs_append bs ws _ as vs (Nat.succ.inj hl)
  | _, [], _ :: _, hl => nomatch hl
  | _, _ :: _, [], hl => nomatch hl

/-- no condition on the strides other than distinct addresses -/
theorem View.read_write (v : View) (m : Int → α) (vals : List α) (hn : v.addrs.Nodup)
    (hl : vals.length = v.addrs.length) : v.read (v.write m vals) = vals :=
  writeAddrs_read m v.addrs vals hn hl

theorem View.write_frame (v : View) (m : Int → α) (vals : List α) (a : Int) (h : a ∉ v.addrs) :
    v.write m vals a = m a :=
  writeAddrs_frame a m v.addrs vals h

theorem shapeSize_eq_prod (s : List Nat) : shapeSize s = s.prod := List.prod_eq_foldl_nat.symm

theorem indices_length : ∀ s : List Nat, (indices s).length = shapeSize s
  | [] => rfl
  | d :: ds => by
    simp [indices, List.length_flatMap, indices_length ds, shapeSize_eq_prod, List.map_const',
      List.sum_replicate_nat]

theorem length_of_mem_indices : ∀ (s : List Nat) {idx : List Nat},
    idx ∈ indices s → idx.length = s.length
  | [], idx, h => by simp [indices] at h; simp [h]
  | d :: ds, idx, h => by
    simp only [indices, List.mem_flatMap, List.mem_map] at h
    obtain ⟨i, _, idx', h', rfl⟩ := h
    simp [length_of_mem_indices ds h']

theorem View.addrs_length (v : View) : v.addrs.length = shapeSize v.shape := by
  simp [View.addrs, indices_length]

/-- whatever the strides: `dot` and `index_axis` agree on a missing stride -/
theorem View.addrs_cons (off : Int) (d : Nat) (ds : List Nat) (strides : List Int) :
    (View.mk off (d :: ds) strides).addrs =
      (List.range d).flatMap (fun i => ((View.mk off (d :: ds) strides).indexAxis0 i).addrs) := by
  simp only [View.addrs, indices, List.map_flatMap, View.indexAxis0, List.tail_cons, List.map_map]
  congr 1
  funext i
  congr 1
  funext idx
  cases strides with
  | nil =>
    cases idx <;>
      simp only [Function.comp, View.addr, dot, List.headD_nil, List.tail_nil, Int.mul_zero,
        Int.add_zero]
  | cons s ss =>
    simp only [Function.comp, View.addr, dot, List.headD_cons, List.tail_cons, Int.add_assoc]

theorem View.subviewAt_cons (v : View) (i : Nat) (idx : List Nat) :
    v.subviewAt (i :: idx) = (v.indexAxis0 i).subviewAt idx := rfl

theorem View.subviewAt_shape (v : View) (idx : List Nat) :
    (v.subviewAt idx).shape = v.shape.drop idx.length := by
  induction idx generalizing v with
  | nil => rfl
  | cons i idx ih =>
    rw [View.subviewAt_cons, ih]
    simp [View.indexAxis0, List.drop_tail]

theorem View.subviewAt_addrs_length (v : View) {qshape trailing idx : List Nat}
    (hs : v.shape = qshape ++ trailing) (h : idx ∈ indices qshape) :
    (v.subviewAt idx).addrs.length = shapeSize trailing := by
  rw [View.addrs_length, View.subviewAt_shape, hs, length_of_mem_indices _ h, List.drop_left]

theorem View.addrs_subviews : ∀ (qshape : List Nat) (v : View) (trailing : List Nat),
    v.shape = qshape ++ trailing →
    v.addrs = (indices qshape).flatMap (fun idx => (v.subviewAt idx).addrs)
  | [], v, _, _ => by simp [indices, View.subviewAt]
  | d :: ds, ⟨off, _, strides⟩, trailing, rfl => by
    rw [List.cons_append, View.addrs_cons]
    simp only [indices, List.flatMap_assoc, List.flatMap_map, View.subviewAt_cons]
    congr 1
    funext i
    exact View.addrs_subviews ds _ trailing rfl

theorem writeRows_eq (buf : View) (c : Nat) :
    ∀ (m : Int → α) (idxs : List (List Nat)) (rows : List (List α)), rows.length = idxs.length →
    (∀ idx ∈ idxs, (buf.subviewAt idx).addrs.length = c) → (∀ r ∈ rows, r.length = c) →
    writeRows buf m idxs rows =
      writeAddrs m (idxs.flatMap fun idx => (buf.subviewAt idx).addrs) rows.flatten
  | _, [], [], _, _, _ => rfl
  | m, idx :: idxs, row :: rows, hl, hi, hr => by
    simp only [List.mem_cons, forall_eq_or_imp] at hi hr
    rw [writeRows, List.flatMap_cons, List.flatten_cons, View.write,
      writeAddrs_append _ _ _ _ _ (hr.1.trans hi.1.symm),
      writeRows_eq buf c _ idxs rows (Nat.succ.inj hl) hi.2 hr.2]
  | _, [], _ :: _, hl, _, _ => nomatch hl
  | _, _ :: _, [], hl, _, _ => nomatch hl

theorem length_flatten_of_forall {rows : List (List α)} {c : Nat} (h : ∀ r ∈ rows, r.length = c) :
    rows.flatten.length = rows.length * c := by
  rw [List.length_flatten, List.map_congr_left h, List.map_const', List.sum_replicate_nat]

theorem writeRows_indices (buf : View) (m : Int → α) (qshape trailing : List Nat)
    (rows : List (List α)) (hshape : buf.shape = qshape ++ trailing)
    (hlen : rows.length = shapeSize qshape)
    (hrow : ∀ r ∈ rows, r.length = shapeSize trailing) :
    writeRows buf m (indices qshape) rows = buf.write m rows.flatten ∧
      rows.flatten.length = buf.addrs.length := by
  constructor
  · rw [writeRows_eq buf _ m _ rows (by rw [hlen, indices_length])
        (fun idx h => buf.subviewAt_addrs_length hshape h) hrow,
      View.write, View.addrs_subviews qshape buf trailing hshape]
  · rw [length_flatten_of_forall hrow, hlen, View.addrs_length, hshape]
    simp only [shapeSize_eq_prod, List.prod_append]

end NdInterp
