/-
The Periodic branch of `solve_for_k` (single lane).  For `len ≥ 4` the code takes the slope `κ` of the last knot
but one for known and solves what remains, a tridiagonal system, twice (`condensed_solve`); with the closed form
for three points and uniqueness the branch answers exactly the solution of `PeriodicCond`, for every `len ≥ 3`.
-/
import NdInterp.Lemmas.ThomasBound
import NdInterp.Lemmas.PeriodicUnique

namespace NdInterp

variable {F : Type} [Field F]

section
variable [LinearOrder F] [Cmp F] [LawfulCmp F]

theorem solveForK_periodic (xs ys : List F) (hy : ys.length = xs.length) (hn : 3 ≤ xs.length) :
    solveForK (V := F) xs ys .periodic =
      if ys[0]'(by omega) = ys[xs.length - 1]'(by omega) then
        if xs.length = 3 then .ok (periodic3 (endsOf xs ys hy hn))
        else rd xs (xs.length - 4) >>= periodicN xs ys (endsOf xs ys hy hn)
      else .error (.builder .valueError) := by
  rw [solveForK_of_ends xs ys _ ⟨hy ▸ hn, hy.symm⟩ (getEnds_eq xs ys hy hn)]
  simp only [InternalBoundary.specialize, all2_scalar, cmp_eq, hy]
  rfl

end

theorem rhs2Rows_go_eq (like b : F) (l : List (Row F F)) :
    rhs2Rows.go like b l =
      l.mapIdx fun i r => { r with rhs := if i + 1 = l.length then b else 0 } := by
  induction l with
  | nil => rfl
  | cons r rest ih =>
    cases rest with
    | nil => simp [rhs2Rows.go]
    | cons r2 rest' => simp [rhs2Rows.go, ih]

/-- on a single row the right-hand side is `b`: the last assignment wins, as in the code -/
theorem rhs2Rows_eq (like a b : F) (l : List (Row F F)) :
    rhs2Rows like a b l =
      l.mapIdx fun i r => { r with rhs := if i + 1 = l.length then b else if i = 0 then a else 0 } := by
  rcases l with _ | ⟨r, _ | ⟨r2, rest⟩⟩
  · rfl
  · simp [rhs2Rows]
  · simp [rhs2Rows, rhs2Rows_go_eq]

theorem rhs2Rows_length (like a b : F) (l : List (Row F F)) : (rhs2Rows like a b l).length = l.length := by
  rw [rhs2Rows_eq, List.length_mapIdx]

theorem rhs2Rows_get (like a b : F) (l : List (Row F F)) {i : Nat} {r : Row F F} (h : l[i]? = some r) :
    (rhs2Rows like a b l)[i]? =
      some { r with rhs := if i + 1 = l.length then b else if i = 0 then a else 0 } := by
  rw [rhs2Rows_eq, List.getElem?_mapIdx, h]; rfl

theorem periodicCombine_spec (d1 d2 r : F) (m : Nat) (k1 k2 : List F)
    (h1 : k1.length = m + 2) (h2 : k2.length = m + 2) :
    ∃ ks κ, periodicCombine d1 d2 (m + 4) r k1 k2 = .ok ks ∧ ks.length = m + 4 ∧
      κ = (r - k1.getD 0 0 * d2 - k1.getD (m + 1) 0 * d1) /
        (k2.getD 0 0 * d2 + k2.getD (m + 1) 0 * d1 + 2 * (d1 + d2)) ∧
      (∀ i, i < m + 2 → ks.getD i 0 = k1.getD i 0 + κ * k2.getD i 0) ∧
      ks.getD (m + 2) 0 = κ ∧ ks.getD (m + 3) 0 = ks.getD 0 0 := by
  set κ := (r - k1.getD 0 0 * d2 - k1.getD (m + 1) 0 * d1) /
    (k2.getD 0 0 * d2 + k2.getD (m + 1) 0 * d1 + 2 * (d1 + d2)) with hκ
  set head := List.zipWith (fun a b => a + κ * b) k1 k2 with hhead
  have hz : head.length = m + 2 := by rw [List.length_zipWith, h1, h2, min_self]
  have hg (i : Nat) : head.getD i 0 = k1.getD i 0 + κ * k2.getD i 0 := by
    simpa only [mul_zero, add_zero] using getD_zipWith (fun a b => a + κ * b) k1 k2 (h1.trans h2.symm) 0 0 i
  have hd (i : Nat) (hi : i < m + 2) : (head ++ [κ, head.getD 0 0]).getD i 0 = k1.getD i 0 + κ * k2.getD i 0 := by
    rw [getD_append_lt _ _ _ (hz ▸ hi), hg i]
  refine ⟨head ++ [κ, head.getD 0 0], κ, ?_, ?_, rfl, hd, ?_, ?_⟩
  · unfold periodicCombine
    simp only [bind, Except.bind, pure, Except.pure, rd_getD k1 0 (by omega), rd_getD k1 (m + 1) (by omega),
      rd_getD k2 0 (by omega), rd_getD k2 (m + 1) (by omega), map1_scalar, map2_scalar, c2_eq,
      show m + 4 - 3 = m + 1 from rfl, ← hκ, ← hhead]
    rw [rd_getD _ 0 (by rw [hz]; omega)]
  · rw [List.length_append, hz]; rfl
  · have := getD_append_add head [κ, head.getD 0 0] 0 0
    rwa [hz] at this
  · have := getD_append_add head [κ, head.getD 0 0] 0 1
    rw [hz] at this
    exact this.trans (getD_append_lt head _ 0 (i := 0) (by rw [hz]; omega)).symm

/-- with the term `dx0·κ` that the condensed system moves to the right, row 0 is the equation of the glued knot -/
theorem periodicRow0_knotEq (e : Ends F F) {κ k0 k1 : F}
    (h : e.dx0 * κ + (periodicRow0 e).mid * k0 + (periodicRow0 e).up * k1 = (periodicRow0 e).rhs) :
    knotEq e.dxl1 e.dx0 (e.yl1 - e.yl2) (e.y1 - e.y0) κ k0 k1 := by
  simp only [periodicRow0, map1_scalar, map2_scalar, c2_eq, c3_eq] at h
  unfold knotEq
  linear_combination h

/-- the closing row is the equation of the last knot but one -/
theorem periodicRhsLast_knotEq (e : Ends F F) {k κ k0 : F}
    (h : e.dxl1 * k + 2 * (e.dxl1 + e.dxl2) * κ + e.dxl2 * k0 = periodicRhsLast e) :
    knotEq e.dxl2 e.dxl1 (e.yl2 - e.yl3) (e.yl1 - e.yl2) k κ k0 := by
  simp only [periodicRhsLast, map1_scalar, map2_scalar, c3_eq] at h
  unfold knotEq
  linear_combination h

variable [LinearOrder F] [IsStrictOrderedRing F]

/-- the second solve: `thomas_bound` with `B = 1`, the right-hand side lying within the dominance gaps -/
theorem rhs2_solve_bound (like a b : F) (l : List (Row F F)) (hd : ∀ r ∈ l, Dom r)
    (ha : ∀ r, l[0]? = some r → |a| ≤ r.mid - r.lo - r.up)
    (hb : ∀ i r, l[i]? = some r → i + 1 = l.length → |b| ≤ r.mid - r.lo - r.up) :
    PivPos (fwdAll (rhs2Rows like a b l)) ∧ ∀ k ∈ thomas (rhs2Rows like a b l), |k| ≤ 1 := by
  have h : ∀ r ∈ rhs2Rows like a b l, Dom r ∧ |r.rhs| ≤ 1 * (r.mid - r.lo - r.up) := by
    rw [rhs2Rows_eq]
    intro r' hr'
    obtain ⟨i, hi, rfl⟩ := List.mem_mapIdx.mp hr'
    have hdi := hd _ (List.getElem_mem hi)
    refine ⟨hdi, ?_⟩
    rw [one_mul]
    split
    · next h => exact hb i l[i] (List.getElem?_eq_getElem hi) h
    · split
      · next h0 => subst h0; exact ha l[0] (List.getElem?_eq_getElem hi)
      · rw [abs_zero]; exact (sub_pos.mpr (lt_sub_iff_add_lt'.mpr hdi.2.2)).le
  exact ⟨pivPos_dom _ fun r hr => (h r hr).1, thomas_bound _ 1 zero_le_one h⟩

/-- the closing row determines `κ`; the denominator of `k_m1` is positive because `|b0|, |bl| ≤ 1` -/
theorem closing_row {d1 d2 rL a0 al b0 bl κ : F} (h0 : |b0| ≤ 1) (hl : |bl| ≤ 1) (hd1 : 0 < d1) (hd2 : 0 < d2)
    (hκ : κ = (rL - a0 * d2 - al * d1) / (b0 * d2 + bl * d1 + 2 * (d1 + d2))) :
    d1 * (al + κ * bl) + 2 * (d1 + d2) * κ + d2 * (a0 + κ * b0) = rL := by
  have p1 : -1 * d2 ≤ b0 * d2 := mul_le_mul_of_nonneg_right (abs_le.mp h0).1 hd2.le
  have p2 : -1 * d1 ≤ bl * d1 := mul_le_mul_of_nonneg_right (abs_le.mp hl).1 hd1.le
  have hden : b0 * d2 + bl * d1 + 2 * (d1 + d2) ≠ 0 := ne_of_gt (by linarith)
  linear_combination (hκ ▸ div_mul_cancel₀ _ hden : κ * (b0 * d2 + bl * d1 + 2 * (d1 + d2)) = _)

/-- A bordered tridiagonal system over variables: unknowns `K 0 … K (m+1)` with the dominant rows `r0 :: I`,
    one more unknown `κ = K (m+2)` that enters the first row with coefficient `c` and the last with its `up`
    entry `u`, and a closing row `d1·K (m+1) + 2(d1+d2)·κ + d2·K 0 = rL`.  By superposition `k1 + κ·k2` solves
    the rows for every `κ` (`k2` the solve for `-c, 0, …, 0, -u`); the closing row determines `κ`, and its
    denominator is positive because `|k2| ≤ 1`. -/
theorem condensed_solve (like c u d1 d2 rL : F) (r0 : Row F F) (I : List (Row F F)) (m : ℕ)
    (hI : I.length = m + 1) (hd : ∀ r ∈ r0 :: I, Dom r) (hc : |c| ≤ r0.mid - r0.lo - r0.up)
    (hu : ∀ r, I[m]? = some r → r.up = u ∧ |u| ≤ r.mid - r.lo - r.up)
    (hd1 : 0 < d1) (hd2 : 0 < d2) :
    ∃ ks, periodicCombine d1 d2 (m + 4) rL (thomas (r0 :: I))
        (thomas (rhs2Rows like (-c) (-u) (r0 :: I))) = .ok ks ∧
      ks.length = m + 4 ∧
      c * ks.getD (m + 2) 0 + r0.mid * ks.getD 0 0 + r0.up * ks.getD 1 0 = r0.rhs ∧
      (∀ i r, I[i]? = some r →
        r.lo * ks.getD i 0 + r.mid * ks.getD (i + 1) 0 + r.up * ks.getD (i + 2) 0 = r.rhs) ∧
      d1 * ks.getD (m + 1) 0 + 2 * (d1 + d2) * ks.getD (m + 2) 0 + d2 * ks.getD (m + 3) 0 = rL ∧
      ks.getD (m + 3) 0 = ks.getD 0 0 := by
  obtain ⟨hp2, hk2⟩ := rhs2_solve_bound like (-c) (-u) (r0 :: I) hd
    (fun r hr => by obtain rfl := Option.some.inj hr; rwa [abs_neg])
    fun i r hr hi => by
      obtain rfl : i = m + 1 := by rw [List.length_cons, hI] at hi; exact Nat.succ.inj hi
      rw [abs_neg]; exact (hu r hr).2
  have n1 : m + 2 = (r0 :: I).length := by rw [List.length_cons, hI]
  have n2 : m + 2 = (rhs2Rows like (-c) (-u) (r0 :: I)).length := by rw [rhs2Rows_length]; exact n1
  have sat1 := rowsSat_thomas (pivPos_dom _ hd).pivOK
  have sat2 := rowsSat_thomas hp2.pivOK
  obtain ⟨ks, κ, hks, hlen, hκ, kd, kκ, kl⟩ := periodicCombine_spec d1 d2 rL m _ _
    ((thomas_length _).trans n1.symm) ((thomas_length _).trans n2.symm)
  generalize thomas (r0 :: I) = k1 at *
  generalize thomas (rhs2Rows like (-c) (-u) (r0 :: I)) = k2 at *
  have z0 : 0 < m + 2 := Nat.succ_pos _
  have z1 : 1 < m + 2 := Nat.succ_lt_succ (Nat.succ_pos m)
  have zl : m + 1 < m + 2 := Nat.lt_succ_self _
  have hb2 : ∀ i, i < m + 2 → |k2.getD i 0| ≤ 1 := fun i hi => by
    have hl : i < k2.length := sat2.1.trans n2.symm ▸ hi
    rw [← getElem_eq_getD0 k2 i hl]
    exact hk2 _ (List.getElem_mem hl)
  refine ⟨ks, hks, hlen, ?_, fun i r hr => ?_, ?_, kl⟩
  · have ra := sat1.first (r := r0) rfl (n1 ▸ z1)
    have rb := sat2.first (rhs2Rows_get like (-c) (-u) _ (i := 0) (r := r0) rfl) (n2 ▸ z1)
    rw [← n1, if_neg z1.ne, if_pos rfl] at rb
    rw [kκ, kd 0 z0, kd 1 z1]
    linear_combination ra + κ * rb
  · have hi : i < m + 1 := hI ▸ (List.getElem?_eq_some_iff.mp hr).1
    have hr1 : (r0 :: I)[i + 1]? = some r := hr
    have hr2 := rhs2Rows_get like (-c) (-u) _ hr1
    rw [← n1, if_neg (Nat.succ_ne_zero i)] at hr2
    rcases Nat.lt_or_eq_of_le (Nat.le_of_lt_succ hi) with h | rfl
    · have h2 : i + 2 < m + 2 := Nat.add_lt_add_right h 2
      have ra := sat1.mid hr1 (n1 ▸ h2)
      have rb := sat2.mid hr2 (n2 ▸ h2)
      rw [if_neg h2.ne] at rb
      rw [kd i (Nat.lt_add_right 2 h), kd (i + 1) (Nat.lt_of_succ_lt h2), kd (i + 2) h2]
      linear_combination ra + κ * rb
    · -- the last row: its `up` term is what the second right-hand side took off
      have ra := sat1.last hr1 n1
      have rb := sat2.last hr2 n2
      rw [if_pos rfl] at rb
      have hur := (hu r hr).1
      rw [kd i (Nat.lt_of_succ_lt zl), kd (i + 1) zl, kκ]
      linear_combination ra + κ * rb + κ * hur
  · rw [kd (m + 1) zl, kκ, kl, kd 0 z0]
    exact closing_row (hb2 0 z0) (hb2 (m + 1) zl) hd1 hd2 hκ

/-- a row `lo = q`, `mid = 2(q + p)`, `up = p` (an interior row) is dominant with gap `q + p ≥ p` -/
theorem dom_gap {p q : F} (hp : 0 < p) (hq : 0 < q) : q < 2 * (q + p) ∧ |p| ≤ 2 * (q + p) - q - p := by
  rw [abs_of_pos hp]
  constructor <;> linarith

/-- row 0 of the condensed system is the interior row of the glued knot without its `lo = dx0` entry -/
theorem periodicRow0_dom (e : Ends F F) (h0 : 0 < e.dx0) (h1 : 0 < e.dxl1) :
    Dom (periodicRow0 e) ∧
      |e.dx0| ≤ (periodicRow0 e).mid - (periodicRow0 e).lo - (periodicRow0 e).up := by
  simp only [periodicRow0, Dom, c0_eq, c2_eq, zero_add, sub_zero]
  exact ⟨⟨le_rfl, h1.le, (dom_gap h0 h1).1⟩, (dom_gap h0 h1).2.trans (sub_le_self _ h0.le)⟩

theorem periodicN_spec (xs ys : List F) (hy : ys.length = xs.length) (hn : 4 ≤ xs.length) (hs : StrictInc xs) :
    ∃ ks : List F, ks.length = xs.length ∧
      (rd xs (xs.length - 4) >>= periodicN xs ys (endsOf xs ys hy (Nat.le_of_succ_le hn))) = .ok ks ∧
      PeriodicCond xs ys ks := by
  obtain ⟨m, hm⟩ : ∃ m, xs.length = m + 4 := ⟨xs.length - 4, by omega⟩
  obtain ⟨p0, -, pl1, pl2⟩ := endsOf_pos xs ys hy (Nat.le_of_succ_le hn) hs
  have pu : 0 < xs.getD (m + 1) 0 - xs.getD m 0 := sub_pos.mpr (hs.getD_lt_succ (by omega))
  set e : Ends F F :=
    { x0 := xs.getD 0 0, x1 := xs.getD 1 0, x2 := xs.getD 2 0, xl1 := xs.getD (m + 3) 0,
      xl2 := xs.getD (m + 2) 0, xl3 := xs.getD (m + 1) 0, y0 := ys.getD 0 0, y1 := ys.getD 1 0,
      y2 := ys.getD 2 0, yl1 := ys.getD (m + 3) 0, yl2 := ys.getD (m + 2) 0,
      yl3 := ys.getD (m + 1) 0 }
  have he : endsOf xs ys hy (Nat.le_of_succ_le hn) = e := by simp only [endsOf, getElem_eq_getD0, hm]; rfl
  rw [he] at p0 pl1 pl2 ⊢
  -- rows `1 … m+1` of the condensed system: the interior rows of the knots `1 … m+1`
  have hL : (interiorRows xs ys).length = m + 2 := by rw [interiorRows_length xs ys hy, hm]; rfl
  have hIl : (interiorRows xs ys).dropLast.length = m + 1 := by rw [List.length_dropLast, hL]; rfl
  have hIg : ∀ i, i < m + 1 → (interiorRows xs ys).dropLast[i]? =
      some (interiorRow (xs.getD i 0) (xs.getD (i + 1) 0) (xs.getD (i + 2) 0)
        (ys.getD i 0) (ys.getD (i + 1) 0) (ys.getD (i + 2) 0)) := fun i hi => by
    rw [List.getElem?_dropLast, if_pos (by rw [hL]; exact hi)]
    exact interiorRows_getD xs ys hy i (by rw [hm]; exact Nat.add_lt_add_right (Nat.lt_succ_of_lt hi) 2)
  obtain ⟨h0, hc⟩ := periodicRow0_dom e p0 pl1
  obtain ⟨ks, hks, hlen, g0, gi, gc, gl⟩ := condensed_solve e.y0 e.dx0 (e.xl3 - xs.getD m 0) e.dxl1
    e.dxl2 (periodicRhsLast e) (periodicRow0 e) (interiorRows xs ys).dropLast m hIl
    (List.forall_mem_cons.mpr
      ⟨h0, fun r hr => interiorRows_dom xs ys hy hs r (List.mem_of_mem_dropLast hr)⟩) hc
    (fun r hr => by
      obtain rfl := Option.some.inj ((hIg m (Nat.lt_succ_self m)).symm.trans hr)
      exact ⟨rfl, (dom_gap pu pl2).2⟩)
    pl1 pl2
  refine ⟨ks, hlen.trans hm.symm, ?_, ?_⟩
  · rw [rd_getD xs _ (by omega), hm]
    show periodicN xs ys e (xs.getD m 0) = _
    rw [← hks, periodicN, hy, hm]
  · unfold PeriodicCond Cyclic
    rw [hm]
    refine ⟨fun j hj => ?_, gl, periodicRow0_knotEq e g0⟩
    rcases Nat.lt_or_ge j (m + 1) with h | h
    · exact gi j _ (hIg j h)
    · obtain rfl : j = m + 1 := Nat.le_antisymm (Nat.le_of_lt_succ (Nat.lt_of_add_lt_add_right hj)) h
      exact periodicRhsLast_knotEq e gc

theorem periodic3_cond (xs ys : List F) (hs : StrictInc xs) (hy : ys.length = xs.length)
    (h3 : xs.length = 3) (hends : ys[0]'(by omega) = ys[xs.length - 1]'(by omega)) :
    PeriodicCond xs ys (periodic3 (endsOf xs ys hy h3.ge)) := by
  match xs, ys, h3, hy with
  | [x0, x1, x2], [y0, y1, y2], _, _ =>
    obtain rfl : y0 = y2 := hends
    refine Cyclic.three rfl rfl rfl rfl ?_
    simp only [periodic3, endsOf, Ends.dx0, Ends.dx1, map1_scalar, map2_scalar, c1_eq, List.getD_cons_zero,
      List.getD_cons_succ, List.getElem_cons_zero, List.getElem_cons_succ]
    exact periodic3_slope _ _ _ _ (sub_pos.mpr (hs.2 0 1 (by omega) (by simp)))
      (sub_pos.mpr (hs.2 1 2 (by omega) (by simp)))

section solve
variable [Cmp F] [LawfulCmp F]

theorem periodic_solve (xs ys : List F) (hs : StrictInc xs) (hy : ys.length = xs.length)
    (hn : 3 ≤ xs.length) :
    if ys[0]'(by omega) = ys[xs.length - 1]'(by omega) then
      ∃ ks, solveForK (V := F) xs ys .periodic = .ok ks ∧ ks.length = xs.length ∧ PeriodicCond xs ys ks
    else solveForK (V := F) xs ys .periodic = .error (.builder .valueError) := by
  rw [solveForK_periodic xs ys hy hn]
  split
  · next hends =>
    split
    · next h3 => exact ⟨_, rfl, h3.symm, periodic3_cond xs ys hs hy h3 hends⟩
    · next h3 =>
      have h4 : 4 ≤ xs.length := Nat.lt_of_le_of_ne hn (Ne.symm h3)
      obtain ⟨ks, hk, hper, hc⟩ := periodicN_spec xs ys hy h4 hs
      exact ⟨ks, hper, hk, hc⟩
  · rfl

theorem solveForK_periodic_iff (xs ys ks : List F) (hs : StrictInc xs) (hy : ys.length = xs.length)
    (hn : 3 ≤ xs.length) :
    solveForK (V := F) xs ys .periodic = .ok ks ↔
      ys[0]'(by omega) = ys[xs.length - 1]'(by omega) ∧ ks.length = xs.length ∧ PeriodicCond xs ys ks := by
  have := periodic_solve xs ys hs hy hn
  split at this
  · next hends =>
    obtain ⟨ks0, h0, hk0, hc0⟩ := this
    rw [h0, Except.ok.injEq]
    constructor
    · rintro rfl; exact ⟨hends, hk0, hc0⟩
    · rintro ⟨_, hk, hc⟩; exact periodic_unique xs ys ks0 ks hs hn hk0 hk hc0 hc
  · next hends => rw [this]; exact ⟨fun h => (nomatch h), fun h => absurd h.1 hends⟩

end solve

end NdInterp
