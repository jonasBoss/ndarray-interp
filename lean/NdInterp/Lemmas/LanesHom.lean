/-
Lane homomorphisms: maps between lane structures that commute with the lane-wise operations.
The projection of a row of lanes onto lane `j` (`row ↦ row[j]?`) and the embedding of a single
lane (`some`) are such maps; every model function written with `Lanes.mapN` commutes with them
("naturality"), for ARBITRARY scalar operations — which is lane independence, bit for bit.

A `do` block of checked reads is a single rewriting pass with the `rd`/`Except` lemmas of
`Lemmas/Reads`.  A recursion over lists is proved by the pattern match of its definition: unfolding,
`hφ.mapN` and the statement for the tail read right to left move `φ` inwards on both sides until
they agree.
-/
import NdInterp.Model.Spline
import NdInterp.Lemmas.Reads

namespace NdInterp

variable {α : Type}

structure LanesHom {V W : Type} [Lanes α V] [Lanes α W] (φ : V → W) : Prop where
  const : ∀ (v : V) (c : α), φ (Lanes.const v c) = Lanes.const (φ v) c
  map1 : ∀ (f : α → α) (a : V), φ (Lanes.map1 f a) = Lanes.map1 f (φ a)
  map2 : ∀ (f : α → α → α) (a b : V), φ (Lanes.map2 f a b) = Lanes.map2 f (φ a) (φ b)
  map3 : ∀ (f : α → α → α → α) (a b c : V), φ (Lanes.map3 f a b c) = Lanes.map3 f (φ a) (φ b) (φ c)
  map4 : ∀ (f : α → α → α → α → α) (a b c d : V),
    φ (Lanes.map4 f a b c d) = Lanes.map4 f (φ a) (φ b) (φ c) (φ d)
  all2 : ∀ (p : α → α → Bool) (a b : V), Lanes.all2 p a b = true → Lanes.all2 p (φ a) (φ b) = true

/-! the n-ary zips are iterated binary zips, so lane `j` of a zip is read off `List.getElem?_zipWith` -/

theorem zipWith3_eq {β γ δ ε : Type} (f : β → γ → δ → ε) : ∀ (a : List β) (b : List γ) (c : List δ),
    zipWith3 f a b c = List.zipWith (fun g z => g z) (List.zipWith f a b) c
  | x :: a, y :: b, z :: c => congrArg (f x y z :: ·) (zipWith3_eq f a b c)
  | [], _, _ => rfl
  | _ :: _, [], _ => rfl
  | _ :: _, _ :: _, [] => rfl

theorem zipWith4_eq {β γ δ ε ζ : Type} (f : β → γ → δ → ε → ζ) :
    ∀ (a : List β) (b : List γ) (c : List δ) (d : List ε),
    zipWith4 f a b c d = List.zipWith (fun g w => g w) (zipWith3 f a b c) d
  | x :: a, y :: b, z :: c, w :: d => congrArg (f x y z w :: ·) (zipWith4_eq f a b c d)
  | [], _, _, _ => rfl
  | _ :: _, [], _, _ => rfl
  | _ :: _, _ :: _, [], _ => rfl
  | _ :: _, _ :: _, _ :: _, [] => rfl

theorem all2List_getElem? (p : α → α → Bool) : ∀ (a b : List α) (j : Nat),
    all2List p a b = true → Lanes.all2 p a[j]? b[j]? = true
  | [], [], _, _ => rfl
  | _ :: _, _ :: _, 0, h => (Bool.and_eq_true _ _ ▸ h).1
  | _ :: a, _ :: b, j + 1, h => all2List_getElem? p a b j (Bool.and_eq_true _ _ ▸ h).2
  | [], _ :: _, _, h => by cases h
  | _ :: _, [], _, h => by cases h

theorem projHom (j : Nat) : LanesHom (α := α) (V := List α) (W := Option α) (fun r => r[j]?) where
  const v c := by simp [Lanes.const]
  map1 f a := by simp [Lanes.map1]
  map2 f a b := by
    simp only [Lanes.map2, List.getElem?_zipWith]
    cases a[j]? <;> cases b[j]? <;> rfl
  map3 f a b c := by
    simp only [Lanes.map3, zipWith3_eq, List.getElem?_zipWith]
    cases a[j]? <;> cases b[j]? <;> cases c[j]? <;> rfl
  map4 f a b c d := by
    simp only [Lanes.map4, zipWith4_eq, zipWith3_eq, List.getElem?_zipWith]
    cases a[j]? <;> cases b[j]? <;> cases c[j]? <;> cases d[j]? <;> rfl
  all2 p a b := all2List_getElem? p a b j

theorem someHom : LanesHom (α := α) (V := α) (W := Option α) some where
  const _ _ := rfl
  map1 _ _ := rfl
  map2 _ _ _ := rfl
  map3 _ _ _ _ := rfl
  map4 _ _ _ _ _ := rfl
  all2 _ _ _ h := h

section nat
variable {V W : Type} (φ : V → W)

def Row.mapRhs (r : Row α V) : Row α W := { r with rhs := φ r.rhs }
def ERow.mapRhs (r : ERow α V) : ERow α W := { r with rhs := φ r.rhs }
def Ends.mapY (e : Ends α V) : Ends α W :=
  { e with y0 := φ e.y0, y1 := φ e.y1, y2 := φ e.y2, yl1 := φ e.yl1, yl2 := φ e.yl2, yl3 := φ e.yl3 }

theorem getEnds_nat (xs : List α) (ys : List V) :
    getEnds xs (ys.map φ) = (getEnds xs ys).map (Ends.mapY φ) := by
  simp only [getEnds, rd_map, List.length_map, Except.map_bind, Except.bind_map, Except.map_pure,
    Ends.mapY]

variable [Lanes α V] [Lanes α W] (hφ : LanesHom (α := α) φ)

include hφ

section spline
variable [Sub α] [Mul α] [Div α]

theorem fwd_nat (pm pu : α) (pr : V) : ∀ rows : List (Row α V),
    fwd pm pu (φ pr) (rows.map (Row.mapRhs φ)) = (fwd pm pu pr rows).map (ERow.mapRhs φ)
  | [] => rfl
  | r :: rows => by
    simp only [List.map_cons, fwd, ← fwd_nat _ _ _ rows, Row.mapRhs, ERow.mapRhs, hφ.map2]

theorem back_nat : ∀ es : List (ERow α V), back (es.map (ERow.mapRhs φ)) = (back es).map φ
  | [] => rfl
  | [e] => by simp only [List.map_cons, List.map_nil, back, ERow.mapRhs, hφ.map1]
  | e :: e2 :: es => by
    simp only [List.map_cons, back]
    rw [← List.map_cons, back_nat (e2 :: es)]
    cases back (e2 :: es) <;> simp only [List.map_cons, List.map_nil, ERow.mapRhs, hφ.map2]

theorem thomas_nat (rows : List (Row α V)) :
    thomas (rows.map (Row.mapRhs φ)) = (thomas rows).map φ := by
  cases rows <;>
    simp only [thomas, fwdAll, List.map_cons, List.map_nil, ← back_nat φ hφ, ← fwd_nat φ hφ,
      ERow.mapRhs, Row.mapRhs]

theorem coeffs_nat : ∀ (xs : List α) (ys ks : List V),
    coeffs xs (ys.map φ) (ks.map φ) = (coeffs xs ys ks).map (fun p => (φ p.1, φ p.2))
  | x0 :: x1 :: xs, y0 :: y1 :: ys, k0 :: k1 :: ks => by
    simp only [List.map_cons, coeffs, ← coeffs_nat (x1 :: xs) (y1 :: ys) (k1 :: ks), hφ.map4]
  | [], _, _ | [_], _, _ => rfl
  | _ :: _ :: _, [], _ | _ :: _ :: _, [_], _ => rfl
  | _ :: _ :: _, _ :: _ :: _, [] | _ :: _ :: _, _ :: _ :: _, [_] => rfl

variable [Add α] [NatCast α]

theorem interiorRows_nat : ∀ (xs : List α) (ys : List V),
    interiorRows xs (ys.map φ) = (interiorRows xs ys).map (Row.mapRhs φ)
  | x0 :: x1 :: x2 :: xs, y0 :: y1 :: y2 :: ys => by
    simp only [List.map_cons, interiorRows, ← interiorRows_nat (x1 :: x2 :: xs) (y1 :: y2 :: ys),
      Row.mapRhs, hφ.map3]
  | [], _ | [_], _ | [_, _], _ => rfl
  | _ :: _ :: _ :: _, [] | _ :: _ :: _ :: _, [_] | _ :: _ :: _ :: _, [_, _] => rfl

theorem firstRow_nat (e : Ends α V) (b : SingleBoundary α) :
    firstRow (Ends.mapY φ e) b = (firstRow e b).map (Row.mapRhs φ) := by
  cases b <;> simp [firstRow, Ends.mapY, Row.mapRhs, hφ.map3, hφ.map2, hφ.const, Ends.dx0, Ends.dx1]

theorem lastRow_nat (e : Ends α V) (b : SingleBoundary α) :
    lastRow (Ends.mapY φ e) b = (lastRow e b).map (Row.mapRhs φ) := by
  cases b <;> simp [lastRow, Ends.mapY, Row.mapRhs, hφ.map3, hφ.map2, hφ.const, Ends.dxl1, Ends.dxl2]

theorem parabolaRows_nat (e : Ends α V) :
    parabolaRows (Ends.mapY φ e) = (parabolaRows e).map (Row.mapRhs φ) := by
  simp [parabolaRows, Ends.mapY, Row.mapRhs, hφ.map1, hφ.map2, Ends.dx0, Ends.dx1]

theorem periodic3_nat (e : Ends α V) :
    periodic3 (Ends.mapY φ e) = (periodic3 e).map φ := by
  simp [periodic3, Ends.mapY, hφ.map1, hφ.map2, Ends.dx0, Ends.dx1]

theorem rhs2Rows_go_nat (like : V) (last : α) : ∀ rows : List (Row α V),
    rhs2Rows.go (φ like) last (rows.map (Row.mapRhs φ)) =
      (rhs2Rows.go like last rows).map (Row.mapRhs φ)
  | [] => rfl
  | [r] => by simp only [List.map_cons, List.map_nil, rhs2Rows.go, Row.mapRhs, hφ.const]
  | r :: r2 :: rows => by
    simp only [List.map_cons, rhs2Rows.go, ← rhs2Rows_go_nat like last (r2 :: rows), Row.mapRhs,
      hφ.const]

theorem rhs2Rows_nat (like : V) (first last : α) (rows : List (Row α V)) :
    rhs2Rows (φ like) first last (rows.map (Row.mapRhs φ)) =
      (rhs2Rows like first last rows).map (Row.mapRhs φ) := by
  match rows with
  | [] => rfl
  | [r] => simp only [List.map_cons, List.map_nil, rhs2Rows, Row.mapRhs, hφ.const]
  | r :: r2 :: rows =>
    simp only [List.map_cons, rhs2Rows, ← rhs2Rows_go_nat φ hφ like last (r2 :: rows), Row.mapRhs,
      hφ.const]

theorem periodicRow0_nat (e : Ends α V) :
    periodicRow0 (Ends.mapY φ e) = Row.mapRhs φ (periodicRow0 e) := by
  simp [periodicRow0, Ends.mapY, Row.mapRhs, hφ.map1, hφ.map2, Ends.dx0, Ends.dxl1]

theorem periodicRhsLast_nat (e : Ends α V) :
    periodicRhsLast (Ends.mapY φ e) = φ (periodicRhsLast e) := by
  simp [periodicRhsLast, Ends.mapY, hφ.map1, hφ.map2, Ends.dxl1, Ends.dxl2]

/-- here `φ` moves outwards: past the lane operations, then past the zip (`← List.map_zipWith`),
    so that the read of the zipped list is a read of a mapped list -/
theorem periodicCombine_nat (dx_1 dx_2 : α) (len : Nat) (r : V) (k1 k2 : List V) :
    periodicCombine dx_1 dx_2 len (φ r) (k1.map φ) (k2.map φ) =
      (periodicCombine dx_1 dx_2 len r k1 k2).map (List.map φ) := by
  simp only [periodicCombine, rd_map, Except.map_bind, Except.bind_map, Except.map_pure,
    ← hφ.map1, ← hφ.map2, List.zipWith_map_left, List.zipWith_map_right, ← List.map_zipWith,
    List.map_append, List.map_cons, List.map_nil]

variable [Neg α]

theorem periodicN_nat (xs : List α) (ys : List V) (e : Ends α V) (xl4 : α) :
    periodicN xs (ys.map φ) (Ends.mapY φ e) xl4 = (periodicN xs ys e xl4).map (List.map φ) := by
  simp only [periodicN, List.length_map, periodicRow0_nat φ hφ, periodicRhsLast_nat φ hφ,
    interiorRows_nat φ hφ, ← List.map_dropLast, ← List.map_cons, ← periodicCombine_nat φ hφ,
    ← thomas_nat φ hφ, ← rhs2Rows_nat φ hφ]
  rfl

variable [Cmp α]

/-- The only operation of `solve_for_k` that looks at all lanes at once is the periodic equal-ends
    check; it is assumed to pass on the full rows (it then passes lane-wise). -/
theorem solveForK_nat (xs : List α) (ys : List V) (b : InternalBoundary α)
    (hper : b.specialize = .periodic → ∀ e, getEnds xs ys = .ok e → Lanes.all2 Cmp.eq e.y0 e.yl1 = true) :
    solveForK xs (ys.map φ) b = (solveForK xs ys b).map (List.map φ) := by
  simp only [solveForK, List.length_map, getEnds_nat, Except.bind_map, Except.map_bind,
    Except.throw_bind, Except.map_throw, apply_ite (Except.map (List.map φ))]
  -- both sides: the length check, then the ends `e`, then the branch for `b`
  refine ite_congr rfl (fun _ => rfl) fun _ => Except.bind_congr_ok fun e he => ?_
  cases hb : b.specialize with
  | periodic =>
    have h := hper hb e he
    have h' : Lanes.all2 Cmp.eq (Ends.mapY φ e).y0 (Ends.mapY φ e).yl1 = true := hφ.all2 _ _ _ h
    simp only [h, h', periodic3_nat φ hφ, periodicN_nat φ hφ, Except.map_bind, Except.map_pure,
      Except.map_throw, apply_ite (Except.map (List.map φ))]
  | mixed left right =>
    simp only [parabolaRows_nat φ hφ, firstRow_nat φ hφ, lastRow_nat φ hφ, interiorRows_nat φ hφ,
      ← thomas_nat φ hφ, Except.map_pure, apply_ite (Except.map (List.map φ))]
    cases firstRow e left.specialize <;> cases lastRow e right.specialize <;>
      simp only [Option.map_some, Option.map_none, Except.map_pure, Except.map_throw,
        ← thomas_nat φ hφ, List.map_cons, List.map_append, List.map_nil]
  | _ => rfl

end spline

variable [Cmp α] [Add α] [Sub α] [Mul α] [Div α] [NatCast α] [ToUsize α]

theorem linearInterp_nat (ext : Bool) (xs : List α) (ys : List V) (q : α) :
    linearInterp ext xs (ys.map φ) q = (linearInterp ext xs ys q).map φ := by
  simp only [linearInterp, rd_map, Except.map_bind, Except.bind_map, Except.map_pure, hφ.map2]

theorem bilinearInterp_nat (ext : Bool) (xs ys : List α) (zs : List (List V)) (x y : α) :
    bilinearInterp ext xs ys (zs.map (·.map φ)) x y = (bilinearInterp ext xs ys zs x y).map φ := by
  simp only [bilinearInterp, rd_map, Except.map_bind, Except.bind_map, Except.map_pure, hφ.map4]

theorem splineEvalAt_nat (a b : List V) (extr : Extrapolate) (xs : List α) (ys : List V) (x : α) :
    splineEvalAt { a := a.map φ, b := b.map φ, extrapolate := extr } xs (ys.map φ) x =
      (splineEvalAt { a := a, b := b, extrapolate := extr } xs ys x).map φ := by
  simp only [splineEvalAt, rd_map, Except.map_bind, Except.bind_map, Except.map_pure, hφ.map4]

variable [RemEuclid α]

theorem splineInterp_nat (a b : List V) (extr : Extrapolate) (xs : List α) (ys : List V) (q : α) :
    splineInterp { a := a.map φ, b := b.map φ, extrapolate := extr } xs (ys.map φ) q =
      (splineInterp { a := a, b := b, extrapolate := extr } xs ys q).map φ := by
  simp only [splineInterp, Except.map_bind, apply_ite (Except.map φ), splineEvalAt_nat φ hφ]

end nat

end NdInterp
