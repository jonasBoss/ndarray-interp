/-
`interpEach` is `List.mapM` in `Except Fault`: which values a `mapM` returns, and with whose error
it fails, is all that the statements about the batch entry points (C05, C09, C14, C18) and about
the per-lane solves (C08) use.
-/
import NdInterp.Model.Interp
import NdInterp.Lemmas.Reads

namespace NdInterp

variable {α β γ ε : Type}

theorem mapM_ok (f : β → Except ε γ) : ∀ (l : List β) (r : List γ), l.mapM f = .ok r →
    r.length = l.length ∧ ∀ i (hi : i < l.length) (hr : i < r.length), f l[i] = .ok r[i]
  | [], r, h => by cases h; exact ⟨rfl, nofun⟩
  | a :: l, r, h => by
    rw [List.mapM_cons] at h
    obtain ⟨b, hb, h⟩ := Except.bind_eq_ok.mp h
    obtain ⟨bs, hbs, h⟩ := Except.bind_eq_ok.mp h
    cases h
    obtain ⟨hl, hi⟩ := mapM_ok f l bs hbs
    refine ⟨congrArg (· + 1) hl, fun i => ?_⟩
    cases i with
    | zero => exact fun _ _ => hb
    | succ i => exact fun h1 h2 => hi i (Nat.lt_of_succ_lt_succ h1) (Nat.lt_of_succ_lt_succ h2)

theorem mapM_eq_error (f : β → Except ε γ) (e : ε) : ∀ l : List β,
    l.mapM f = .error e ↔
      ∃ pre a post, l = pre ++ a :: post ∧ (∀ p ∈ pre, ∃ b, f p = .ok b) ∧ f a = .error e
  | [] => by simp [pure, Except.pure]
  | a :: l => by
    have ih := mapM_eq_error f e l
    rw [List.mapM_cons]
    constructor
    · cases ha : f a with
      | error e' => intro h; cases h; exact ⟨[], a, l, rfl, by simp, ha⟩
      | ok b =>
        cases hr : l.mapM f with
        | ok bs => intro h; cases h
        | error e' =>
          intro h; cases h
          obtain ⟨pre, a', post, rfl, h2, h3⟩ := ih.mp hr
          exact ⟨a :: pre, a', post, rfl, by simpa [ha] using h2, h3⟩
    · rintro ⟨pre, a', post, h1, h2, h3⟩
      cases pre with
      | nil => cases h1; rw [h3]; rfl
      | cons p pre =>
        cases h1
        obtain ⟨b, hb⟩ := h2 a (by simp)
        rw [hb, ih.mpr ⟨pre, a', post, rfl, fun p' hp' => h2 p' (by simp [hp']), h3⟩]
        rfl

theorem interpEach_eq_mapM (f : β → Except Fault (List α)) : ∀ qs, interpEach f qs = qs.mapM f
  | [] => rfl
  | q :: qs => by
    rw [List.mapM_cons, interpEach, interpEach_eq_mapM f qs]
    cases f q with
    | error e => rfl
    | ok v => cases qs.mapM f <;> rfl

theorem epArray_eq_map (trailing : List Nat) (f : β → Except Fault (List α)) (qshape : List Nat)
    (qs : List β) :
    epArray trailing f qshape qs =
      (interpEach f qs).map fun vs => { shape := qshape ++ trailing, flat := vs.flatten } := by
  unfold epArray
  cases interpEach f qs <;> rfl

end NdInterp
