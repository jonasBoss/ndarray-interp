/-
The tridiagonal system by index (`RowsSat`): row `i` reads `lo·k[i-1] + mid·k[i] + up·k[i+1] = rhs`, without
the `lo` term in the first and the `up` term in the last row; equivalent to the recursive `FullSat`.
-/
import NdInterp.Lemmas.Thomas

namespace NdInterp

theorem forall_getElem?_cons {β : Type} (a : β) (l : List β) (P : Nat → β → Prop) :
    (∀ i b, (a :: l)[i]? = some b → P i b) ↔ P 0 a ∧ ∀ i b, l[i]? = some b → P (i + 1) b :=
  ⟨fun h => ⟨h 0 a rfl, fun i b hb => h (i + 1) b hb⟩,
   fun h i b hb => by
    cases i with
    | zero => cases hb; exact h.1
    | succ i => exact h.2 i b hb⟩

variable {F : Type} [Field F]

theorem triSat_iff (kprev : F) (rows : List (Row F F)) (ks : List F) :
    TriSat kprev rows ks ↔ ks.length = rows.length ∧
      ∀ i r, rows[i]? = some r →
        r.lo * (kprev :: ks).getD i 0 + r.mid * ks.getD i 0 + r.up * ks.getD (i + 1) 0 = r.rhs := by
  induction rows generalizing kprev ks with
  | nil =>
    cases ks with
    | nil => exact iff_of_true trivial ⟨rfl, fun i r h => nomatch h⟩
    | cons k ks => exact iff_of_false id fun h => nomatch h.1
  | cons r rs ih =>
    cases ks with
    | nil => exact iff_of_false (not_triSat_nil _ _ _) fun h => nomatch h.1
    | cons k ks =>
      rw [triSat_cons, ih, forall_getElem?_cons]
      simp only [List.length_cons, Nat.add_right_cancel_iff, List.headD_eq_getD, List.getD_cons_zero,
        List.getD_cons_succ]
      exact and_left_comm

def RowsSat (rows : List (Row F F)) (ks : List F) : Prop :=
  ks.length = rows.length ∧
    ∀ i r, rows[i]? = some r →
      (if i = 0 then 0 else r.lo * ks.getD (i - 1) 0) + r.mid * ks.getD i 0 +
        (if i + 1 < rows.length then r.up * ks.getD (i + 1) 0 else 0) = r.rhs

theorem fullSat_iff_rowsSat (rows : List (Row F F)) (ks : List F) :
    FullSat rows ks ↔ RowsSat rows ks := by
  rw [fullSat_iff_triSat, triSat_iff]
  refine and_congr_right fun hl => forall₃_congr fun i r _ => ?_
  -- the two `if`s of `RowsSat` say what the reads `(0 :: ks)[0]` and `ks[i+1]` past the end give by themselves
  have lo : (if i = 0 then 0 else r.lo * ks.getD (i - 1) 0) = r.lo * (0 :: ks).getD i 0 := by
    cases i with
    | zero => rw [List.getD_cons_zero, mul_zero, if_pos rfl]
    | succ i => rw [List.getD_cons_succ, if_neg (Nat.succ_ne_zero i), Nat.add_sub_cancel]
  have up : (if i + 1 < rows.length then r.up * ks.getD (i + 1) 0 else 0) = r.up * ks.getD (i + 1) 0 := by
    split
    · rfl
    · rw [List.getD_eq_getElem?_getD, List.getElem?_eq_none (by omega), Option.getD_none, mul_zero]
  rw [lo, up]

theorem rowsSat_thomas {rows : List (Row F F)} (hpiv : PivOK (fwdAll rows)) : RowsSat rows (thomas rows) :=
  (fullSat_iff_rowsSat _ _).mp (thomas_sound _ hpiv)

theorem RowsSat.first {rows : List (Row F F)} {ks : List F} (h : RowsSat rows ks) {r : Row F F}
    (hr : rows[0]? = some r) (hn : 1 < rows.length) :
    r.mid * ks.getD 0 0 + r.up * ks.getD 1 0 = r.rhs := by
  have := h.2 0 r hr
  rwa [if_pos rfl, zero_add, if_pos hn] at this

theorem RowsSat.mid {rows : List (Row F F)} {ks : List F} (h : RowsSat rows ks) {i : Nat} {r : Row F F}
    (hr : rows[i + 1]? = some r) (hn : i + 2 < rows.length) :
    r.lo * ks.getD i 0 + r.mid * ks.getD (i + 1) 0 + r.up * ks.getD (i + 2) 0 = r.rhs := by
  have := h.2 (i + 1) r hr
  rwa [if_neg (Nat.succ_ne_zero i), if_pos hn] at this

theorem RowsSat.last {rows : List (Row F F)} {ks : List F} (h : RowsSat rows ks) {i : Nat} {r : Row F F}
    (hr : rows[i + 1]? = some r) (hn : i + 2 = rows.length) :
    r.lo * ks.getD i 0 + r.mid * ks.getD (i + 1) 0 = r.rhs := by
  have := h.2 (i + 1) r hr
  rwa [if_neg (Nat.succ_ne_zero i), if_neg (hn ▸ Nat.lt_irrefl _), add_zero] at this

end NdInterp
