/-
Checked reads (`rd`) and `Except` blocks of them: what every proof about a `do` block of the model
uses instead of unfolding `bind` and splitting on each read; and total reads (`l.getD i 0`), in which
the spline lemmas state what holds of many entries of a list.
-/
import NdInterp.Model.Basic

namespace NdInterp

theorem rd_eq {β : Type} (l : List β) (i : Nat) (h : i < l.length) : rd l i = .ok l[i] := by
  simp [rd, h]

theorem rd_of_some {β : Type} (l : List β) (i : Nat) (v : β) (h : l[i]? = some v) :
    rd l i = .ok v := by
  simp [rd, h]

theorem rd_congr {β : Type} (l l' : List β) (i : Nat) (h : l[i]? = l'[i]?) : rd l i = rd l' i := by
  simp [rd, h]

theorem rd_map {β γ : Type} (φ : β → γ) (l : List β) (i : Nat) :
    rd (l.map φ) i = (rd l i).map φ := by
  simp only [rd, List.getElem?_map]
  cases l[i]? <;> rfl

/-! ### total reads

`l.getD i 0` rather than `l[i]'h`: no proof of a bound is part of the term, and none has to be
found when the statement is used. -/

theorem getElem_eq_getD0 {β : Type} [Zero β] (l : List β) (i : Nat) (h : i < l.length) :
    l[i] = l.getD i 0 := List.getElem_eq_getD 0

theorem rd_getD {β : Type} [Zero β] (l : List β) (i : Nat) (h : i < l.length) :
    rd l i = .ok (l.getD i 0) := by
  rw [rd_eq l i h, getElem_eq_getD0]

theorem getD_append_lt {β : Type} (l l' : List β) (d : β) {i : Nat} (h : i < l.length) :
    (l ++ l').getD i d = l.getD i d := by
  rw [List.getD_eq_getElem?_getD, List.getElem?_append_left h, List.getD_eq_getElem?_getD]

theorem getD_append_add {β : Type} (l l' : List β) (d : β) (j : Nat) :
    (l ++ l').getD (l.length + j) d = l'.getD j d := by
  rw [List.getD_eq_getElem?_getD, List.getElem?_append_right (Nat.le_add_right _ _),
    Nat.add_sub_cancel_left, List.getD_eq_getElem?_getD]

theorem getD_map {β γ : Type} (f : β → γ) (l : List β) (d : β) (i : Nat) :
    (l.map f).getD i (f d) = f (l.getD i d) := by
  simp only [List.getD_eq_getElem?_getD, List.getElem?_map]
  cases l[i]? <;> rfl

/-- lists of one length: past the end both sides read the defaults -/
theorem getD_zipWith {β γ δ : Type} (f : β → γ → δ) (a : List β) (b : List γ)
    (h : a.length = b.length) (d : β) (e : γ) (i : Nat) :
    (List.zipWith f a b).getD i (f d e) = f (a.getD i d) (b.getD i e) := by
  simp only [List.getD_eq_getElem?_getD, List.getElem?_zipWith]
  rcases Nat.lt_or_ge i a.length with hi | hi
  · rw [List.getElem?_eq_getElem hi, List.getElem?_eq_getElem (h ▸ hi)]; rfl
  · rw [List.getElem?_eq_none hi, List.getElem?_eq_none (h ▸ hi)]; rfl

section
variable {ε β γ δ : Type}

/-! with these and `rd_map`, that a block of checked reads followed by one operation commutes
    with a map of the data is a single rewriting pass -/

theorem Except.map_bind (φ : γ → δ) (x : Except ε β) (f : β → Except ε γ) :
    (x >>= f).map φ = x >>= fun a => (f a).map φ := by cases x <;> rfl

theorem Except.bind_map (φ : β → γ) (x : Except ε β) (g : γ → Except ε δ) :
    x.map φ >>= g = x >>= fun a => g (φ a) := by cases x <;> rfl

theorem Except.map_pure (φ : β → γ) (a : β) : (pure a : Except ε β).map φ = pure (φ a) := rfl

theorem Except.map_throw (φ : β → γ) (e : ε) : (throw e : Except ε β).map φ = throw e := rfl

/-- `if c then throw e` in the middle of a `do` block elaborates to `throw e >>= rest` -/
theorem Except.throw_bind (e : ε) (f : β → Except ε γ) : (throw e : Except ε β) >>= f = throw e := rfl

theorem Except.bind_congr_ok {x : Except ε β} {f g : β → Except ε γ}
    (h : ∀ a, x = .ok a → f a = g a) : x >>= f = x >>= g := by
  cases x with
  | error e => rfl
  | ok a => exact h a rfl

/-! inversion: read off a hypothesis `block = .ok c` in place of a case split on every step -/

theorem Except.bind_eq_ok {x : Except ε β} {f : β → Except ε γ} {c : γ} :
    x >>= f = .ok c ↔ ∃ a, x = .ok a ∧ f a = .ok c := by
  cases x <;> simp [bind, Except.bind]

theorem Except.map_eq_ok {φ : β → γ} {x : Except ε β} {c : γ} :
    x.map φ = .ok c ↔ ∃ a, x = .ok a ∧ φ a = c := by
  cases x <;> simp [Except.map]

theorem Except.map_eq_error {φ : β → γ} {x : Except ε β} {e : ε} :
    x.map φ = .error e ↔ x = .error e := by
  cases x <;> simp [Except.map]

end

end NdInterp
