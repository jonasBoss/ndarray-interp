/-
Strictly increasing axes in the index form the lookup and the interpolation theorems use; `Props/C12`
ties it to the recursive form the automaton establishes (`AllPairs (· < ·)`).
-/
import Mathlib.Order.Basic

namespace NdInterp

variable {α : Type}

/-- the axis invariant of an interpolator: at least two knots, strictly increasing -/
def StrictInc [LT α] (xs : List α) : Prop :=
  2 ≤ xs.length ∧ ∀ i j (_ : i < j) (hj : j < xs.length), xs[i]'(by omega) < xs[j]

theorem StrictInc.le_of_le [LinearOrder α] {xs : List α} (h : StrictInc xs) {i j : Nat}
    (hij : i ≤ j) (hj : j < xs.length) : xs[i]'(by omega) ≤ xs[j] := by
  rcases Nat.lt_or_eq_of_le hij with h1 | h1
  · exact le_of_lt (h.2 i j h1 hj)
  · subst h1; exact le_refl _

theorem StrictInc.lt_of_lt [LinearOrder α] {xs : List α} (h : StrictInc xs) {i j : Nat}
    {hi : i < xs.length} {hj : j < xs.length} (hlt : xs[i] < xs[j]) : i < j :=
  Nat.lt_of_not_le fun hji => absurd (h.le_of_le hji hi) (not_le.mpr hlt)

theorem StrictInc.lt_succ [LT α] {xs : List α} (h : StrictInc xs) {i : Nat} (hi : i + 1 < xs.length) :
    xs[i]'(Nat.lt_of_succ_lt hi) < xs[i + 1] := h.2 i (i + 1) (Nat.lt_succ_self i) hi

theorem StrictInc.getD_lt_getD [LT α] [Zero α] {xs : List α} (h : StrictInc xs) {i j : Nat}
    (hij : i < j) (hj : j < xs.length) : xs.getD i 0 < xs.getD j 0 := by
  simpa only [List.getElem_eq_getD (0 : α)] using h.2 i j hij hj

theorem StrictInc.getD_lt_succ [LT α] [Zero α] {xs : List α} (h : StrictInc xs) {i : Nat}
    (hi : i + 1 < xs.length) : xs.getD i 0 < xs.getD (i + 1) 0 := h.getD_lt_getD (Nat.lt_succ_self i) hi

end NdInterp
