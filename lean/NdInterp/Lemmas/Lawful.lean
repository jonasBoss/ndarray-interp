/-
The property theorems are stated for any scalar type whose comparisons satisfy `LawfulCmp`;
`Lemmas/RatInst` proves it of the `Cmp Rat` instance the driver executes.
-/
import NdInterp.Model.Basic
import NdInterp.Model.Instances
import Mathlib.Order.Defs.LinearOrder

namespace NdInterp

/-- the Boolean comparisons decide a linear order (no NaN) -/
class LawfulCmp (α : Type) [LinearOrder α] [Cmp α] : Prop where
  lt_iff : ∀ a b : α, Cmp.lt a b = true ↔ a < b
  le_iff : ∀ a b : α, Cmp.le a b = true ↔ a ≤ b
  eq_iff : ∀ a b : α, Cmp.eq a b = true ↔ a = b

section
variable {α : Type} [LinearOrder α] [Cmp α] [LawfulCmp α]

@[simp] theorem cmp_lt (a b : α) : Cmp.lt a b = true ↔ a < b := LawfulCmp.lt_iff a b
@[simp] theorem cmp_le (a b : α) : Cmp.le a b = true ↔ a ≤ b := LawfulCmp.le_iff a b
@[simp] theorem cmp_eq (a b : α) : Cmp.eq a b = true ↔ a = b := LawfulCmp.eq_iff a b
@[simp] theorem cmp_gt (a b : α) : Cmp.gt a b = true ↔ b < a := LawfulCmp.lt_iff b a
@[simp] theorem cmp_ge (a b : α) : Cmp.ge a b = true ↔ b ≤ a := LawfulCmp.le_iff b a
@[simp] theorem cmp_lt_false (a b : α) : Cmp.lt a b = false ↔ b ≤ a := by
  rw [← not_lt, ← cmp_lt a b, Bool.not_eq_true]
@[simp] theorem cmp_le_false (a b : α) : Cmp.le a b = false ↔ b < a := by
  rw [← not_le, ← cmp_le a b, Bool.not_eq_true]
@[simp] theorem cmp_eq_false (a b : α) : Cmp.eq a b = false ↔ a ≠ b := by
  rw [Ne, ← cmp_eq a b, Bool.not_eq_true]
@[simp] theorem cmp_gt_false (a b : α) : Cmp.gt a b = false ↔ a ≤ b := cmp_lt_false b a
@[simp] theorem cmp_ge_false (a b : α) : Cmp.ge a b = false ↔ a < b := cmp_le_false b a

theorem cmp_le_eq_decide (a b : α) : Cmp.le a b = decide (a ≤ b) := by
  rw [Bool.eq_iff_iff, cmp_le, decide_eq_true_iff]
end

end NdInterp
