/-
`Linear::interp_into` / `Bilinear::interp_into` on a valid interpolator.  A `Bracket` on a strictly
increasing axis is a condition on `xs[i]`, `xs[i+1]` and the length alone (`bracket_iff`, `Props/C11`),
so the value of a call is given for *whatever* bracket and corner reads the caller holds, and two
calls are compared by handing both the same bracket.  What every strategy needs of the lookup is here too:
`InRange`, `isInRange_eq`, `rangeGate_eq`, `lowerIndex_eq`, `exists_bracket`, `knot_bracket`.
-/
import NdInterp.Model.Linear
import NdInterp.Lemmas.Reads
import NdInterp.Props.C11
import Mathlib.Tactic.FieldSimp

namespace NdInterp

section calcFrac
variable {F : Type} [Field F]

theorem calcFrac_left (x1 y1 x2 y2 : F) : calcFrac x1 y1 x2 y2 x1 = y1 := by
  simp [calcFrac]

theorem calcFrac_right (x1 y1 x2 y2 : F) (h : x1 ≠ x2) : calcFrac x1 y1 x2 y2 x2 = y2 := by
  have : x2 - x1 ≠ 0 := sub_ne_zero.mpr h.symm
  simp [calcFrac, this]

theorem calcFrac_affine (a b x1 x2 q : F) (h : x1 ≠ x2) :
    calcFrac x1 (a + b * x1) x2 (a + b * x2) q = a + b * q := by
  have : x2 - x1 ≠ 0 := sub_ne_zero.mpr h.symm
  simp only [calcFrac]
  field_simp
  ring

/-- the order of operations of `calc_frac`, which the rounding bounds follow: slope times offset, then `+ y1` -/
theorem calcFrac_repr (x1 y1 x2 y2 x : F) :
    calcFrac x1 y1 x2 y2 x = (y2 - y1) * ((x - x1) / (x2 - x1)) + y1 := by
  unfold calcFrac
  ring

/-- `calc_frac` is linear in its two values -/
theorem calcFrac_sub (x1 x2 a b a' b' x : F) :
    calcFrac x1 a x2 b x - calcFrac x1 a' x2 b' x = calcFrac x1 (a - a') x2 (b - b') x := by
  unfold calcFrac
  ring

theorem blend_eq (x1 x2 y1 y2 z11 z12 z21 z22 x y : F) :
    calcFrac y1 (calcFrac x1 z11 x2 z21 x) y2 (calcFrac x1 z12 x2 z22 x) y =
      z11 * (1 - (x - x1) / (x2 - x1)) * (1 - (y - y1) / (y2 - y1)) +
      z21 * ((x - x1) / (x2 - x1)) * (1 - (y - y1) / (y2 - y1)) +
      z12 * (1 - (x - x1) / (x2 - x1)) * ((y - y1) / (y2 - y1)) +
      z22 * ((x - x1) / (x2 - x1)) * ((y - y1) / (y2 - y1)) := by
  unfold calcFrac
  ring

end calcFrac

theorem Bracket.transfer {α : Type} [LinearOrder α] {xs xs' : List α} {q : α} {i : Nat}
    (hs : StrictInc xs) (hs' : StrictInc xs') (hlen : xs'.length = xs.length)
    (hb : Bracket xs q i)
    (e1 : xs'[i]'(by have := hb.lt_len; omega) = xs[i]'(by have := hb.lt_len; omega))
    (e2 : xs'[i + 1]'(by have := hb.lt_len; omega) = xs[i + 1]'hb.lt_len) :
    Bracket xs' q i := by
  obtain ⟨hi, lo, up⟩ := (bracket_iff hs).mp hb
  exact (bracket_iff hs').mpr ⟨by omega, fun h => e1 ▸ lo h, fun h => e2 ▸ up (by omega)⟩

section bracket
variable {α : Type} [LinearOrder α]

/-- the closed-range test of the property text -/
def InRange (xs : List α) (q : α) : Prop :=
  ∃ (h : 0 < xs.length), xs[0] ≤ q ∧ q ≤ xs[xs.length - 1]

instance (xs : List α) (q : α) : Decidable (InRange xs q) := by
  unfold InRange; infer_instance

theorem StrictInc.inRange {xs : List α} (hs : StrictInc xs) {a : Nat} (ha : a < xs.length) : InRange xs xs[a] :=
  ⟨by omega, hs.le_of_le (Nat.zero_le a) ha, hs.le_of_le (by omega) (by have := hs.1; omega)⟩

theorem inRange_of_interval {xs : List α} {q : α} {i : Nat} (hs : StrictInc xs) (hi : i + 1 < xs.length)
    (h1 : xs[i]'(Nat.lt_of_succ_lt hi) ≤ q) (h2 : q ≤ xs[i + 1]) : InRange xs q :=
  ⟨by omega, (hs.le_of_le (Nat.zero_le i) _).trans h1, h2.trans (hs.le_of_le (by omega) (by omega))⟩

theorem Bracket.between {xs : List α} {q : α} {i : Nat} (hb : Bracket xs q i) (hs : StrictInc xs)
    (hin : InRange xs q) :
    xs[i]'(by have := hb.lt_len; omega) ≤ q ∧ q ≤ xs[i + 1]'hb.lt_len := by
  obtain ⟨hi, lo, up⟩ := (bracket_iff hs).mp hb
  obtain ⟨h0, hlo, hhi⟩ := hin
  constructor
  · rcases Nat.eq_zero_or_pos i with rfl | h
    · exact hlo
    · exact lo h
  · rcases Nat.lt_or_ge (i + 2) xs.length with h | h
    · exact (up h).le
    · have : xs.length - 1 = i + 1 := by omega
      simpa only [this] using hhi

theorem Bracket.inRange_iff {xs : List α} {q : α} {i : Nat} (hb : Bracket xs q i) (hs : StrictInc xs) :
    InRange xs q ↔ xs[i]'(by have := hb.lt_len; omega) ≤ q ∧ q ≤ xs[i + 1]'hb.lt_len :=
  ⟨hb.between hs, fun h => inRange_of_interval hs hb.lt_len h.1 h.2⟩

theorem InRange.congr {xs xs' : List α} {q : α} {i : Nat} (hs : StrictInc xs) (hs' : StrictInc xs')
    (hlen : xs'.length = xs.length) (hb : Bracket xs q i)
    (e1 : xs'[i]'(by have := hb.lt_len; omega) = xs[i]'(by have := hb.lt_len; omega))
    (e2 : xs'[i + 1]'(by have := hb.lt_len; omega) = xs[i + 1]'hb.lt_len) :
    InRange xs' q ↔ InRange xs q := by
  rw [(hb.transfer hs hs' hlen e1 e2).inRange_iff hs', hb.inRange_iff hs, e1, e2]

theorem knot_bracket {xs : List α} {a i : Nat} (hs : StrictInc xs) (ha : a < xs.length)
    (hb : Bracket xs xs[a] i) : a = i ∨ a = i + 1 := by
  have hlt := hb.lt_len
  obtain ⟨b1, b2⟩ := hb.between hs (hs.inRange ha)
  by_contra hcon
  rcases Nat.lt_or_ge a i with h1 | h1
  · exact absurd b1 (not_le.mpr (hs.2 a i h1 (by omega)))
  · exact absurd b2 (not_le.mpr (hs.2 (i + 1) a (by omega) ha))

end bracket

def GridOK {W : Type} (zs : List (List W)) (nx ny : Nat) : Prop :=
  zs.length = nx ∧ ∀ r ∈ zs, r.length = ny

theorem GridOK.get {W : Type} {zs : List (List W)} {nx ny : Nat} (h : GridOK zs nx ny) (i j : Nat)
    (hi : i < nx) (hj : j < ny) : ∃ r z, zs[i]? = some r ∧ r[j]? = some z := by
  have hi' : i < zs.length := by rw [h.1]; exact hi
  refine ⟨zs[i], (zs[i])[j]'(by rw [h.2 _ (List.getElem_mem hi')]; exact hj), ?_, ?_⟩
  · simp [hi']
  · simp

theorem GridOK.cell {W : Type} {zs : List (List W)} {nx ny : Nat} (h : GridOK zs nx ny) {i j : Nat}
    (hi : i + 1 < nx) (hj : j + 1 < ny) : ∃ r1 r2 z11 z12 z21 z22,
      zs[i]? = some r1 ∧ zs[i + 1]? = some r2 ∧
      r1[j]? = some z11 ∧ r1[j + 1]? = some z12 ∧ r2[j]? = some z21 ∧ r2[j + 1]? = some z22 := by
  obtain ⟨r1, z11, e1, e11⟩ := h.get i j (by omega) (by omega)
  obtain ⟨_, z12, e1', e12⟩ := h.get i (j + 1) (by omega) hj
  obtain ⟨r2, z21, e2, e21⟩ := h.get (i + 1) j hi (by omega)
  obtain ⟨_, z22, e2', e22⟩ := h.get (i + 1) (j + 1) hi hj
  cases e1.symm.trans e1'
  cases e2.symm.trans e2'
  exact ⟨r1, r2, z11, z12, z21, z22, e1, e2, e11, e12, e21, e22⟩

/-! ### the two calls once the lookup has answered (any lawful order, arbitrary arithmetic: also `Z64`) -/

section index
variable {α V : Type} [LinearOrder α] [Cmp α] [LawfulCmp α]

theorem isInRange_eq (xs : List α) (q : α) (h0 : 0 < xs.length) :
    isInRange xs q = .ok (decide (InRange xs q)) := by
  have hlast : xs.length - 1 < xs.length := by omega
  unfold isInRange InRange
  simp only [List.getElem?_eq_getElem h0, List.getElem?_eq_getElem hlast, cmp_le_eq_decide]
  split <;> simp [*]

theorem rangeGate_eq (ext : Bool) (xs : List α) (q : α) (h0 : 0 < xs.length) :
    rangeGate ext xs q = if ext = true ∨ InRange xs q then .ok () else .error .outOfBounds := by
  unfold rangeGate
  cases ext with
  | true => simp
  | false =>
    rw [isInRange_eq xs q h0]
    by_cases c : InRange xs q <;> simp [c]

variable [Add α] [Sub α] [Mul α] [Div α] [NatCast α] [ToUsize α] [Lanes α V]

theorem linearInterp_of_index (ext : Bool) {xs : List α} (ys : List V) {q : α} {i : Nat}
    (hl : ys.length = xs.length) (hlt : i + 1 < xs.length) (hi : lowerIndex xs q = .ok i) :
    linearInterp ext xs ys q =
      if ext = true ∨ InRange xs q then
        .ok (Lanes.map2 (fun y1 y2 => calcFrac (xs[i]'(by omega)) y1 xs[i + 1] y2 q)
          (ys[i]'(by omega)) (ys[i + 1]'(by omega)))
      else .error .outOfBounds := by
  unfold linearInterp
  rw [rangeGate_eq ext xs q (by omega)]
  split
  · simp only [hi, rd_eq xs i (by omega), rd_eq xs (i + 1) hlt, rd_eq ys i (by omega),
      rd_eq ys (i + 1) (by omega), bind, Except.bind, pure, Except.pure]
  · rfl

theorem bilinearInterp_of_index (ext : Bool) {xs ys : List α} {zs : List (List V)} {x y : α}
    {i j : Nat} {r1 r2 : List V} {z11 z12 z21 z22 : V}
    (hil : i + 1 < xs.length) (hjl : j + 1 < ys.length)
    (hi : lowerIndex xs x = .ok i) (hj : lowerIndex ys y = .ok j)
    (e1 : zs[i]? = some r1) (e2 : zs[i + 1]? = some r2)
    (e11 : r1[j]? = some z11) (e12 : r1[j + 1]? = some z12)
    (e21 : r2[j]? = some z21) (e22 : r2[j + 1]? = some z22) :
    bilinearInterp ext xs ys zs x y =
      if ext = true ∨ InRange xs x then
        if ext = true ∨ InRange ys y then
          .ok (Lanes.map4 (fun z11 z12 z21 z22 =>
            let z1 := calcFrac (xs[i]'(by omega)) z11 xs[i + 1] z21 x
            let z2 := calcFrac (xs[i]'(by omega)) z12 xs[i + 1] z22 x
            calcFrac (ys[j]'(by omega)) z1 ys[j + 1] z2 y) z11 z12 z21 z22)
        else .error .outOfBounds
      else .error .outOfBounds := by
  unfold bilinearInterp
  rw [rangeGate_eq ext xs x (by omega), rangeGate_eq ext ys y (by omega)]
  split
  · split
    · simp only [hi, hj, rd_eq xs i (by omega), rd_eq xs (i + 1) hil, rd_eq ys j (by omega),
        rd_eq ys (j + 1) hjl, rd_of_some _ _ _ e1, rd_of_some _ _ _ e2, rd_of_some _ _ _ e11,
        rd_of_some _ _ _ e12, rd_of_some _ _ _ e21, rd_of_some _ _ _ e22, bind, Except.bind, pure,
        Except.pure]
    · rfl
  · rfl

end index

/-! ### ordered fields: the lookup answers with the bracket (C11) -/

section
variable {α V : Type} [Field α] [LinearOrder α] [IsStrictOrderedRing α]
  [Cmp α] [LawfulCmp α] [ToUsize α] [LawfulToUsize α] [Lanes α V]

theorem lowerIndex_eq {xs : List α} {q : α} {i : Nat} (hs : StrictInc xs)
    (hlen : xs.length < 2 ^ 64) (hb : Bracket xs q i) : lowerIndex xs q = .ok i := by
  obtain ⟨i', hi, hb'⟩ := C11_exact xs q hs hlen
  rw [hi, Bracket.unique hs hb' hb]

theorem exists_bracket (xs : List α) (q : α) (hs : StrictInc xs) (hlen : xs.length < 2 ^ 64) :
    ∃ i, Bracket xs q i := by
  obtain ⟨i, _, hb⟩ := C11_exact xs q hs hlen
  exact ⟨i, hb⟩

def linePiece (xs : List α) (ys : List V) (i : Nat) (h : i + 1 < xs.length)
    (hl : ys.length = xs.length) (q : α) : V :=
  Lanes.map2 (fun y1 y2 => calcFrac (xs[i]'(by omega)) y1 xs[i + 1] y2 q)
    (ys[i]'(by omega)) (ys[i + 1]'(by omega))

/-- normal form of `Linear::interp_into` on a valid interpolator -/
theorem linearInterp_of_bracket (ext : Bool) {xs : List α} (ys : List V) {q : α} {i : Nat}
    (hs : StrictInc xs) (hl : ys.length = xs.length) (hlen : xs.length < 2 ^ 64)
    (hb : Bracket xs q i) :
    linearInterp ext xs ys q =
      if ext = true ∨ InRange xs q then .ok (linePiece xs ys i hb.lt_len hl q)
      else .error .outOfBounds :=
  linearInterp_of_index ext ys hl hb.lt_len (lowerIndex_eq hs hlen hb)

def cellPiece (xs ys : List α) (i j : Nat) (hi : i + 1 < xs.length) (hj : j + 1 < ys.length)
    (z11 z12 z21 z22 : V) (x y : α) : V :=
  Lanes.map4 (fun z11 z12 z21 z22 =>
    let z1 := calcFrac (xs[i]'(by omega)) z11 xs[i + 1] z21 x
    let z2 := calcFrac (xs[i]'(by omega)) z12 xs[i + 1] z22 x
    calcFrac (ys[j]'(by omega)) z1 ys[j + 1] z2 y) z11 z12 z21 z22

/-- normal form of `Bilinear::interp_into`, for whatever brackets and corner reads the caller
    holds (the grid need not be well-formed elsewhere) -/
theorem bilinearInterp_of_cell (ext : Bool) {xs ys : List α} {zs : List (List V)} {x y : α}
    {i j : Nat} {r1 r2 : List V} {z11 z12 z21 z22 : V}
    (hsx : StrictInc xs) (hsy : StrictInc ys) (hlx : xs.length < 2 ^ 64) (hly : ys.length < 2 ^ 64)
    (hi : Bracket xs x i) (hj : Bracket ys y j)
    (e1 : zs[i]? = some r1) (e2 : zs[i + 1]? = some r2)
    (e11 : r1[j]? = some z11) (e12 : r1[j + 1]? = some z12)
    (e21 : r2[j]? = some z21) (e22 : r2[j + 1]? = some z22) :
    bilinearInterp ext xs ys zs x y =
      if ext = true ∨ InRange xs x then
        if ext = true ∨ InRange ys y then
          .ok (cellPiece xs ys i j hi.lt_len hj.lt_len z11 z12 z21 z22 x y)
        else .error .outOfBounds
      else .error .outOfBounds :=
  bilinearInterp_of_index ext hi.lt_len hj.lt_len (lowerIndex_eq hsx hlx hi) (lowerIndex_eq hsy hly hj)
    e1 e2 e11 e12 e21 e22

theorem bilinearInterp_eq (ext : Bool) (xs ys : List α) (zs : List (List V)) (x y : α)
    (hsx : StrictInc xs) (hsy : StrictInc ys) (hg : GridOK zs xs.length ys.length)
    (hlx : xs.length < 2 ^ 64) (hly : ys.length < 2 ^ 64) :
    ∃ i j, ∃ (hi : Bracket xs x i) (hj : Bracket ys y j), ∃ r1 r2 z11 z12 z21 z22,
      zs[i]? = some r1 ∧ zs[i + 1]? = some r2 ∧
      r1[j]? = some z11 ∧ r1[j + 1]? = some z12 ∧ r2[j]? = some z21 ∧ r2[j + 1]? = some z22 ∧
      bilinearInterp ext xs ys zs x y =
        if ext = true ∨ InRange xs x then
          if ext = true ∨ InRange ys y then
            .ok (cellPiece xs ys i j hi.lt_len hj.lt_len z11 z12 z21 z22 x y)
          else .error .outOfBounds
        else .error .outOfBounds := by
  obtain ⟨i, hi⟩ := exists_bracket xs x hsx hlx
  obtain ⟨j, hj⟩ := exists_bracket ys y hsy hly
  obtain ⟨r1, r2, z11, z12, z21, z22, e1, e2, e11, e12, e21, e22⟩ := hg.cell hi.lt_len hj.lt_len
  exact ⟨i, j, hi, hj, r1, r2, z11, z12, z21, z22, e1, e2, e11, e12, e21, e22,
    bilinearInterp_of_cell ext hsx hsy hlx hly hi hj e1 e2 e11 e12 e21 e22⟩

end

end NdInterp
