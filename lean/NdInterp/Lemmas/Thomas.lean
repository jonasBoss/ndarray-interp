/-
The Thomas algorithm of the model (`fwd`, `fwdAll`, `back`, `thomas` in `Model/Spline.lean`) on single-lane
data (`V = α`): if no pivot vanishes its output is *the* solution of the tridiagonal system; the pivots stay
positive along rows that are diagonally dominant with non-negative off-diagonals.
"`ks` solves" is said recursively here — `BiSat` for the eliminated system, `TriSat kprev` for the rows below an
unknown `kprev`, `FullSat` (`= TriSat 0`) for the whole system, in which `thomas_sound` / `thomas_unique` are
stated — and by index in `Lemmas/RowsSat` (`RowsSat`), the form everything outside the solve uses.
-/
import NdInterp.Model.Spline
import Mathlib.Tactic.FieldSimp
import Mathlib.Tactic.Ring
import Mathlib.Tactic.LinearCombination
import Mathlib.Algebra.Order.Field.Basic

namespace NdInterp

@[simp] theorem map1_scalar {α : Type} (f : α → α) (a : α) : Lanes.map1 (V := α) f a = f a := rfl
@[simp] theorem map2_scalar {α : Type} (f : α → α → α) (a b : α) : Lanes.map2 (V := α) f a b = f a b := rfl
@[simp] theorem map3_scalar {α : Type} (f : α → α → α → α) (a b c : α) :
    Lanes.map3 (V := α) f a b c = f a b c := rfl
@[simp] theorem map4_scalar {α : Type} (f : α → α → α → α → α) (a b c d : α) :
    Lanes.map4 (V := α) f a b c d = f a b c d := rfl
@[simp] theorem const_scalar {α : Type} (a c : α) : Lanes.const (V := α) a c = c := rfl
@[simp] theorem all2_scalar {α : Type} (p : α → α → Bool) (a b : α) : Lanes.all2 (V := α) p a b = p a b := rfl

variable {F : Type} [Field F]

@[simp] theorem c0_eq : (c0 : F) = 0 := by simp [c0]
@[simp] theorem c1_eq : (c1 : F) = 1 := by simp [c1]
@[simp] theorem c2_eq : (c2 : F) = 2 := by simp [c2]
@[simp] theorem c3_eq : (c3 : F) = 3 := by simp [c3]

/-- the eliminated (upper bidiagonal) system -/
def BiSat : List (ERow F F) → List F → Prop
  | [], [] => True
  | [e], [k] => e.mid * k = e.rhs
  | e :: es, k :: k' :: ks => e.mid * k + e.up * k' = e.rhs ∧ BiSat es (k' :: ks)
  | _, _ => False

def PivOK : List (ERow F F) → Prop
  | [] => True
  | e :: es => e.mid ≠ 0 ∧ PivOK es

/-- rows below a row whose unknown is `kprev` -/
def TriSat (kprev : F) : List (Row F F) → List F → Prop
  | [], [] => True
  | [r], [k] => r.lo * kprev + r.mid * k = r.rhs
  | r :: rs, k :: k' :: ks => r.lo * kprev + r.mid * k + r.up * k' = r.rhs ∧ TriSat k rs (k' :: ks)
  | _, _ => False

/-- `lo` of the first row and `up` of the last are not part of the system -/
def FullSat : List (Row F F) → List F → Prop
  | [], [] => True
  | [r], [k] => r.mid * k = r.rhs
  | r :: rs, k :: k' :: ks => r.mid * k + r.up * k' = r.rhs ∧ TriSat k rs (k' :: ks)
  | _, _ => False

theorem back_length (es : List (ERow F F)) : (back es).length = es.length := by
  induction es with
  | nil => rfl
  | cons e es ih =>
    cases es with
    | nil => rfl
    | cons e2 rest =>
      simp only [back]
      split
      · next h => simp [h] at ih
      · next k ks h => simp [h] at ih ⊢; omega

theorem fwd_cons (pm pu pr : F) (r : Row F F) (rest : List (Row F F)) :
    fwd pm pu pr (r :: rest) = ⟨r.mid - r.lo / pm * pu, r.up, r.rhs - r.lo / pm * pr⟩ ::
      fwd (r.mid - r.lo / pm * pu) r.up (r.rhs - r.lo / pm * pr) rest := rfl

theorem fwd_length (pm pu pr : F) (rows : List (Row F F)) : (fwd pm pu pr rows).length = rows.length := by
  induction rows generalizing pm pu pr with
  | nil => rfl
  | cons r rest ih => rw [fwd_cons, List.length_cons, ih, List.length_cons]

theorem fwdAll_length (rows : List (Row F F)) : (fwdAll rows).length = rows.length := by
  cases rows with
  | nil => rfl
  | cons r rest => simp [fwdAll, fwd_length]

theorem thomas_length (rows : List (Row F F)) : (thomas rows).length = rows.length := by
  simp [thomas, back_length, fwdAll_length]

/-! The unknown after the last one reads as `0`: the last row, whose `up` is not part of the system, then
    has the shape of the others, and every induction below has a single `cons` case. -/

theorem biSat_cons (e : ERow F F) (es : List (ERow F F)) (k : F) (ks : List F) :
    BiSat (e :: es) (k :: ks) ↔ e.mid * k + e.up * ks.headD 0 = e.rhs ∧ BiSat es ks := by
  cases es <;> cases ks <;>
    simp only [BiSat, List.headD_cons, List.headD_nil, mul_zero, add_zero, and_true, and_false]

theorem triSat_cons (kprev : F) (r : Row F F) (rs : List (Row F F)) (k : F) (ks : List F) :
    TriSat kprev (r :: rs) (k :: ks) ↔
      r.lo * kprev + r.mid * k + r.up * ks.headD 0 = r.rhs ∧ TriSat k rs ks := by
  cases rs <;> cases ks <;>
    simp only [TriSat, List.headD_cons, List.headD_nil, mul_zero, add_zero, and_true, and_false]

theorem back_cons (e : ERow F F) (es : List (ERow F F)) :
    back (e :: es) = (e.rhs - e.up * (back es).headD 0) / e.mid :: back es := by
  cases es with
  | nil => simp [back]
  | cons e2 rest =>
    have := back_length (e2 :: rest)
    cases h : back (e2 :: rest) with
    | nil => simp [h] at this
    | cons k ks => simp [back, h]

theorem not_biSat_nil (e : ERow F F) (es : List (ERow F F)) : ¬ BiSat (e :: es) [] := by
  simp only [BiSat, not_false_eq_true]

theorem not_triSat_nil (kprev : F) (r : Row F F) (rs : List (Row F F)) : ¬ TriSat kprev (r :: rs) [] := by
  simp only [TriSat, not_false_eq_true]

theorem fullSat_iff_triSat (rows : List (Row F F)) (ks : List F) : FullSat rows ks ↔ TriSat 0 rows ks := by
  rcases rows with _ | ⟨r, _ | ⟨r2, rs⟩⟩ <;> rcases ks with _ | ⟨k, _ | ⟨k', ks⟩⟩ <;>
    simp only [FullSat, TriSat, mul_zero, zero_add]

theorem back_sat (es : List (ERow F F)) (h : PivOK es) : BiSat es (back es) := by
  induction es with
  | nil => trivial
  | cons e es ih =>
    rw [back_cons, biSat_cons]
    exact ⟨by have := h.1; field_simp; ring, ih h.2⟩

theorem back_unique (es : List (ERow F F)) (h : PivOK es) (ks : List F) (hs : BiSat es ks) :
    ks = back es := by
  induction es generalizing ks with
  | nil =>
    cases ks with
    | nil => rfl
    | cons _ _ => exact hs.elim
  | cons e es ih =>
    cases ks with
    | nil => exact (not_biSat_nil _ _ hs).elim
    | cons k ks =>
      obtain ⟨h1, h2⟩ := (biSat_cons ..).mp hs
      rw [back_cons, ← ih h.2 ks h2]
      congr 1
      exact eq_div_of_mul_eq h.1 (by linear_combination h1)

theorem elim_step (r : Row F F) {pm pu pr kprev k : F} (t : F) (hp : pm ≠ 0)
    (hk : pm * kprev + pu * k = pr) :
    r.lo * kprev + r.mid * k + t = r.rhs ↔
      (r.mid - r.lo / pm * pu) * k + t = r.rhs - r.lo / pm * pr := by
  have : r.lo * kprev = r.lo / pm * (pr - pu * k) := by
    rw [← hk, add_sub_cancel_right, ← mul_assoc, div_mul_cancel₀ _ hp]
  constructor <;> intro h
  · linear_combination h - this
  · linear_combination h + this

theorem fwd_equiv (rows : List (Row F F)) (pm pu pr kprev : F) (ks : List F)
    (hp : pm ≠ 0) (hpiv : PivOK (fwd pm pu pr rows))
    (hprev : ∀ k, ks.head? = some k → pm * kprev + pu * k = pr) :
    TriSat kprev rows ks ↔ BiSat (fwd pm pu pr rows) ks := by
  induction rows generalizing pm pu pr kprev ks with
  | nil =>
    cases ks with
    | nil => exact iff_of_true trivial trivial
    | cons _ _ => exact iff_of_false id id
  | cons r rs ih =>
    cases ks with
    | nil => exact iff_of_false (not_triSat_nil _ _ _) (not_biSat_nil _ _)
    | cons k ks =>
      rw [fwd_cons, triSat_cons, biSat_cons, elim_step r _ hp (hprev k rfl)]
      refine and_congr_right fun e1 => ih _ _ _ k ks hpiv.1 hpiv.2 fun k' hk' => ?_
      rwa [List.headD_eq_head?_getD, hk'] at e1

/-- the first row is eliminated like the others, below a row `1·k = 0` that takes nothing off it -/
theorem fwdAll_eq_fwd (rows : List (Row F F)) : fwdAll rows = fwd 1 0 0 rows := by
  cases rows with
  | nil => rfl
  | cons r rest => simp only [fwdAll, fwd_cons, mul_zero, sub_zero]

theorem fullSat_iff (rows : List (Row F F)) (ks : List F) (hpiv : PivOK (fwdAll rows)) :
    FullSat rows ks ↔ BiSat (fwdAll rows) ks := by
  rw [fwdAll_eq_fwd] at hpiv ⊢
  rw [fullSat_iff_triSat]
  exact fwd_equiv rows 1 0 0 0 ks one_ne_zero hpiv fun k _ => by rw [mul_zero, zero_mul, add_zero]

theorem thomas_sound (rows : List (Row F F)) (hpiv : PivOK (fwdAll rows)) :
    FullSat rows (thomas rows) :=
  (fullSat_iff rows _ hpiv).mpr (back_sat _ hpiv)

theorem thomas_unique (rows : List (Row F F)) (hpiv : PivOK (fwdAll rows)) (ks : List F)
    (h : FullSat rows ks) : ks = thomas rows :=
  back_unique _ hpiv ks ((fullSat_iff rows ks hpiv).mp h)

section order
variable [LinearOrder F]

def PivPos : List (ERow F F) → Prop
  | [] => True
  | e :: es => 0 < e.mid ∧ PivPos es

theorem PivPos.pivOK : ∀ {es : List (ERow F F)}, PivPos es → PivOK es
  | [], _ => trivial
  | _ :: _, h => ⟨ne_of_gt h.1, PivPos.pivOK h.2⟩

/-- state of the sweep after a row: `0 ≤ up < pivot` -/
def SweepInv (pm pu : F) : Prop := 0 ≤ pu ∧ pu < pm

theorem SweepInv.pos {pm pu : F} (h : SweepInv pm pu) : 0 < pm := lt_of_le_of_lt h.1 h.2

variable [IsStrictOrderedRing F]

def Dom (r : Row F F) : Prop := 0 ≤ r.lo ∧ 0 ≤ r.up ∧ r.lo + r.up < r.mid

theorem pivPos_append {a b : List (ERow F F)} : PivPos (a ++ b) ↔ PivPos a ∧ PivPos b := by
  induction a with
  | nil => simp [PivPos]
  | cons e a ih => simp [PivPos, ih, and_assoc]

theorem SweepInv.step {pm pu : F} (h : SweepInv pm pu) {lo : F} (hlo : 0 ≤ lo) : lo / pm * pu ≤ lo := by
  rw [div_mul_eq_mul_div, div_le_iff₀ h.pos]
  exact mul_le_mul_of_nonneg_left h.2.le hlo

theorem SweepInv.next {pm pu : F} (h : SweepInv pm pu) {r : Row F F} (hr : Dom r) :
    SweepInv (r.mid - r.lo / pm * pu) r.up :=
  ⟨hr.2.1, calc r.up < r.mid - r.lo := lt_sub_iff_add_lt'.mpr hr.2.2
    _ ≤ r.mid - r.lo / pm * pu := sub_le_sub_left (h.step hr.1) _⟩

theorem pivPos_fwd (rows : List (Row F F)) (pm pu pr : F) (h : SweepInv pm pu) (hd : ∀ r ∈ rows, Dom r) :
    PivPos (fwd pm pu pr rows) := by
  induction rows generalizing pm pu pr with
  | nil => trivial
  | cons r rest ih =>
    rw [List.forall_mem_cons] at hd
    exact ⟨(h.next hd.1).pos, ih _ _ _ (h.next hd.1) hd.2⟩

theorem pivPos_dom (rows : List (Row F F)) (hd : ∀ r ∈ rows, Dom r) : PivPos (fwdAll rows) :=
  fwdAll_eq_fwd rows ▸ pivPos_fwd rows 1 0 0 ⟨le_rfl, zero_lt_one⟩ hd

theorem Dom.sweepInv {r : Row F F} (h : Dom r) : SweepInv r.mid r.up :=
  ⟨h.2.1, (le_add_of_nonneg_left h.1).trans_lt h.2.2⟩

/-- the last row `l` need not be dominant: it is enough that its pivot is positive in every state the
    dominant row `r` before it can leave -/
theorem pivPos_fwd_last (rows : List (Row F F)) (r l : Row F F) (pm pu pr : F) (h : SweepInv pm pu)
    (hd : ∀ r' ∈ rows ++ [r], Dom r')
    (hl : ∀ pm', r.mid - r.lo ≤ pm' → 0 < l.mid - l.lo / pm' * r.up) :
    PivPos (fwd pm pu pr (rows ++ [r, l])) := by
  induction rows generalizing pm pu pr with
  | nil =>
    have hr := hd r (List.mem_singleton_self r)
    exact ⟨(h.next hr).pos, hl _ (sub_le_sub_left (h.step hr.1) _), trivial⟩
  | cons r' rest ih =>
    rw [List.cons_append, List.forall_mem_cons] at hd
    exact ⟨(h.next hd.1).pos, ih _ _ _ (h.next hd.1) hd.2⟩

end order

end NdInterp
