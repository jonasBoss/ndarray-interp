/-
A max-norm bound along the Thomas recursion: for a system whose rows are diagonally dominant
with non-negative off-diagonals and `|rhs| ≤ B·(mid - lo - up)`, every unknown satisfies `|k| ≤ B`.
The closing denominator of the periodic spline needs it (`|k2ᵢ| ≤ 1`).  An invariant of the eliminated rows
carried down `fwd` (`fwd_bound`) and read off up `back` (`back_bound`): the pattern for any other such bound.
-/
import NdInterp.Lemmas.Thomas
import Mathlib.Algebra.Order.AbsoluteValue.Basic

namespace NdInterp

variable {F : Type} [Field F] [LinearOrder F] [IsStrictOrderedRing F]

theorem abs_sub_mul_le {a b w A C : F} (hw : 0 ≤ w) (ha : |a| ≤ A) (hb : |b| ≤ C) :
    |a - w * b| ≤ A + w * C :=
  calc |a - w * b| ≤ |a| + |w * b| := abs_sub _ _
    _ = |a| + w * |b| := by rw [abs_mul, abs_of_nonneg hw]
    _ ≤ A + w * C := add_le_add ha (mul_le_mul_of_nonneg_left hb hw)

theorem fwd_bound (rows : List (Row F F)) (pm pu pr B : F) (h0 : 0 ≤ pu) (h1 : pu < pm) (hB : 0 ≤ B)
    (hpr : |pr| ≤ B * (pm - pu))
    (hd : ∀ r ∈ rows, Dom r ∧ |r.rhs| ≤ B * (r.mid - r.lo - r.up)) :
    ∀ e ∈ fwd pm pu pr rows, 0 ≤ e.up ∧ e.up < e.mid ∧ |e.rhs| ≤ B * (e.mid - e.up) := by
  induction rows generalizing pm pu pr with
  | nil => simp [fwd]
  | cons r rest ih =>
    rw [List.forall_mem_cons] at hd
    obtain ⟨⟨hdom, hr⟩, hrest⟩ := hd
    have hinv : SweepInv pm pu := ⟨h0, h1⟩
    have hn := hinv.next hdom
    have hw : 0 ≤ r.lo / pm := div_nonneg hdom.1 hinv.pos.le
    have hpm : r.lo / pm * pm = r.lo := div_mul_cancel₀ _ hinv.pos.ne'
    have hnew : |r.rhs - r.lo / pm * pr| ≤ B * ((r.mid - r.lo / pm * pu) - r.up) :=
      (abs_sub_mul_le hw hr hpr).trans_eq (by linear_combination B * hpm)
    rw [fwd_cons, List.forall_mem_cons]
    exact ⟨⟨hn.1, hn.2, hnew⟩, ih _ _ _ hn.1 hn.2 hnew hrest⟩

theorem back_bound (es : List (ERow F F)) (B : F) (hB : 0 ≤ B)
    (h : ∀ e ∈ es, 0 ≤ e.up ∧ e.up < e.mid ∧ |e.rhs| ≤ B * (e.mid - e.up)) :
    ∀ k ∈ back es, |k| ≤ B := by
  induction es with
  | nil => simp [back]
  | cons e es ih =>
    rw [List.forall_mem_cons] at h
    obtain ⟨⟨hu, hm, hr⟩, hes⟩ := h
    have ih := ih hes
    have hpos : 0 < e.mid := lt_of_le_of_lt hu hm
    have hx : |(back es).headD 0| ≤ B := by
      cases hb : back es with
      | nil => rwa [List.headD_nil, abs_zero]
      | cons x _ => exact ih x (by rw [hb]; exact List.mem_cons_self)
    rw [back_cons, List.forall_mem_cons, abs_div, abs_of_pos hpos, div_le_iff₀ hpos]
    exact ⟨(abs_sub_mul_le hu hr hx).trans_eq (by ring), ih⟩

theorem thomas_bound (rows : List (Row F F)) (B : F) (hB : 0 ≤ B)
    (hd : ∀ r ∈ rows, Dom r ∧ |r.rhs| ≤ B * (r.mid - r.lo - r.up)) :
    ∀ k ∈ thomas rows, |k| ≤ B := by
  rw [thomas, fwdAll_eq_fwd]
  exact back_bound _ B hB (fwd_bound rows 1 0 0 B le_rfl zero_lt_one hB
    (by rwa [abs_zero, sub_zero, mul_one]) hd)

end NdInterp
