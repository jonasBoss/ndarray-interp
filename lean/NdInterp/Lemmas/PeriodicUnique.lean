/-
The cyclic tridiagonal system of the periodic spline, on sequences `x y k : ℕ → F` (knots, data, slopes; `n`
knots).  It is strictly diagonally dominant, so it has at most one solution (`Cyclic.unique`, maximum-modulus
argument); for three knots one common slope solves it (`Cyclic.three`).  `PeriodicCond` is the same system read
off lists; in terms of the pieces it says: C² at the interior knots, `S'` and `S''` equal at the two ends
(`periodicCond_iff`).
-/
import NdInterp.Lemmas.SplineChar
import Mathlib.Data.Finset.Max
import Mathlib.Order.Interval.Finset.Nat

namespace NdInterp

variable {F : Type} [Field F]

/-- the last row is the equation of the knot at which the two ends are glued, `x (n-2), x (n-1) ≡ x 0, x 1` -/
def Cyclic (x y k : ℕ → F) (n : ℕ) : Prop :=
  (∀ j, j + 2 < n → IntEq x y k j) ∧ k (n - 1) = k 0 ∧
  knotEq (x (n - 1) - x (n - 2)) (x 1 - x 0) (y (n - 1) - y (n - 2)) (y 1 - y 0) (k (n - 2)) (k 0) (k 1)

/-- with one slope `c` at the three knots the equation says that `c` is the weighted mean of the two secant
    slopes; it does not change when the two intervals are swapped -/
theorem knotEq_const {a b d0 d1 c : F} (h : (a + b) * c = b * (d0 / a) + a * (d1 / b)) :
    knotEq a b d0 d1 c c c ∧ knotEq b a d1 d0 c c c := by
  unfold knotEq
  constructor <;> linear_combination 3 * h

/-- three knots, equal end values, one slope `c`: the interior row and the row of the glued knot are the same
    equation -/
theorem Cyclic.three {x y k : ℕ → F} {c : F} (h0 : k 0 = c) (h1 : k 1 = c) (h2 : k 2 = c) (hy : y 2 = y 0)
    (h : ((x 1 - x 0) + (x 2 - x 1)) * c =
      (x 2 - x 1) * ((y 1 - y 0) / (x 1 - x 0)) + (x 1 - x 0) * ((y 0 - y 1) / (x 2 - x 1))) :
    Cyclic x y k 3 := by
  refine ⟨fun j hj => ?_, h2.trans h0.symm, ?_⟩
  · obtain rfl : j = 0 := by omega
    unfold IntEq
    rw [h0, h1, h2, hy]
    exact (knotEq_const h).1
  · show knotEq (x 2 - x 1) _ (y 2 - y 1) _ (k 1) _ _
    rw [h0, h1, hy]
    exact (knotEq_const h).2

/-- two solutions of a knot equation differ by a solution of the homogeneous one -/
theorem knotEq_sub {h0 h1 d0 d1 k0 k1 k2 l0 l1 l2 : F} (a : knotEq h0 h1 d0 d1 k0 k1 k2)
    (b : knotEq h0 h1 d0 d1 l0 l1 l2) : 2 * (h1 + h0) * (k1 - l1) = -(h1 * (k0 - l0) + h0 * (k2 - l2)) := by
  unfold knotEq at a b
  linear_combination a - b

variable [LinearOrder F] [IsStrictOrderedRing F]

theorem dominant_row (a b u v w M : F) (ha : 0 < a) (hb : 0 < b)
    (h : 2 * (a + b) * v = -(a * u + b * w)) (hu : |u| ≤ M) (hw : |w| ≤ M) (hv : |v| = M) :
    M = 0 := by
  have hab : 0 < a + b := add_pos ha hb
  have key : (a + b) * M + (a + b) * M ≤ (a + b) * M :=
    calc (a + b) * M + (a + b) * M = |2 * (a + b) * v| := by
          rw [abs_mul, abs_of_pos (mul_pos two_pos hab), hv, mul_assoc, two_mul]
      _ = |a * u + b * w| := by rw [h, abs_neg]
      _ ≤ |a * u| + |b * w| := abs_add_le _ _
      _ = a * |u| + b * |w| := by rw [abs_mul, abs_mul, abs_of_pos ha, abs_of_pos hb]
      _ ≤ a * M + b * M := add_le_add (mul_le_mul_of_nonneg_left hu ha.le) (mul_le_mul_of_nonneg_left hw hb.le)
      _ = (a + b) * M := (add_mul a b M).symm
  have hM : (a + b) * M ≤ (a + b) * 0 := by rw [mul_zero]; exact add_le_iff_nonpos_left.mp key
  exact le_antisymm (le_of_mul_le_mul_left hM hab) (hv ▸ abs_nonneg v)

theorem Cyclic.unique {x y k k' : ℕ → F} {n : ℕ} (hn : 3 ≤ n) (hx : ∀ i, i + 1 < n → x i < x (i + 1))
    (h : Cyclic x y k n) (h' : Cyclic x y k' n) : ∀ i < n, k i = k' i := by
  obtain ⟨hi, hl, hc⟩ := h
  obtain ⟨hi', hl', hc'⟩ := h'
  have hp : ∀ i, i + 1 < n → 0 < x (i + 1) - x i := fun i h => sub_pos.mpr (hx i h)
  have h1 : 1 < n := by omega
  have h2 : n - 2 < n := by omega
  have hpl : 0 < x (n - 1) - x (n - 2) := (show n - 2 + 1 = n - 1 by omega) ▸ hp (n - 2) (by omega)
  obtain ⟨m, hm, hmax⟩ := Finset.exists_max_image (Finset.range n) (fun i => |k i - k' i|)
    ⟨0, Finset.mem_range.mpr (Nat.zero_lt_of_lt h1)⟩
  have hle : ∀ i, i < n → |k i - k' i| ≤ |k m - k' m| := fun i hi => hmax i (Finset.mem_range.mpr hi)
  have hM0 : |k m - k' m| = 0 := by
    by_cases h0 : m = 0 ∨ m = n - 1
    · -- the glued knot
      have hm0 : |k 0 - k' 0| = |k m - k' m| := by
        rcases h0 with h0 | h0
        · rw [h0]
        · rw [h0, hl, hl']
      exact dominant_row _ _ _ _ _ _ (hp 0 h1) hpl (knotEq_sub hc hc') (hle _ h2) (hle _ h1) hm0
    · obtain ⟨j, rfl⟩ : ∃ j, m = j + 1 := ⟨m - 1, by omega⟩
      have hj : j + 2 < n := by have := Finset.mem_range.mp hm; omega
      exact dominant_row _ _ _ _ _ _ (hp _ hj) (hp _ (Nat.lt_of_succ_lt hj)) (knotEq_sub (hi j hj) (hi' j hj))
        (hle _ (Nat.lt_of_succ_lt (Nat.lt_of_succ_lt hj))) (hle _ hj) rfl
  intro i hi
  exact sub_eq_zero.mp (abs_eq_zero.mp (le_antisymm (hM0 ▸ hle i hi) (abs_nonneg _)))

/-- the slope of the 3-point closed form, `(s0/a + s1/b) / (1/a + 1/b)`, is the weighted mean
    `(b·s0 + a·s1) / (a + b)` of the two secant slopes -/
theorem periodic3_slope (a b s0 s1 : F) (ha : 0 < a) (hb : 0 < b) :
    (a + b) * ((s0 / a + s1 / b) / (1 / a + 1 / b)) = b * s0 + a * s1 := by
  field_simp
  ring

def PeriodicCond (xs ys ks : List F) : Prop :=
  Cyclic (xs.getD · 0) (ys.getD · 0) (ks.getD · 0) xs.length

theorem periodic_unique (xs ys ks ks' : List F) (hs : StrictInc xs) (hn : 3 ≤ xs.length)
    (hk : ks.length = xs.length) (hk' : ks'.length = xs.length)
    (h : PeriodicCond xs ys ks) (h' : PeriodicCond xs ys ks') : ks = ks' := by
  apply List.ext_getElem (by omega)
  intro i h1 h2
  rw [getElem_eq_getD0, getElem_eq_getD0]
  exact Cyclic.unique hn (fun _ => hs.getD_lt_succ) h h' i (by omega)

/-- the index bounds of the reads are arguments, so that a use takes them from the statement it proves -/
theorem periodicCond_iff (xs ys ks : List F) (hs : StrictInc xs) (hy : ys.length = xs.length)
    (hk : ks.length = xs.length) (h0 : 0 < xs.length) (h1 : 1 < xs.length)
    (hl1 : xs.length - 1 < xs.length) (hl2 : xs.length - 2 < xs.length)
    (hends : ys[0]'(hy ▸ h0) = ys[xs.length - 1]'(hy ▸ hl1)) :
    PeriodicCond xs ys ks ↔ C2Cond xs ys ks hy hk ∧
      (pc xs ys ks hy hk (xs.length - 2) (xs.length - 1) hl2 hl1).d1 xs[xs.length - 1] =
        (pc xs ys ks hy hk 0 1 h0 h1).d1 xs[0] ∧
      (pc xs ys ks hy hk (xs.length - 2) (xs.length - 1) hl2 hl1).d2 xs[xs.length - 1] =
        (pc xs ys ks hy hk 0 1 h0 h1).d2 xs[0] := by
  have hp : ∀ i, i + 1 < xs.length → xs.getD (i + 1) 0 - xs.getD i 0 ≠ 0 :=
    fun i h => (sub_pos.mpr (hs.getD_lt_succ h)).ne'
  have n0 : xs.getD 1 0 - xs.getD 0 0 ≠ 0 := hp 0 (by omega)
  have n1 := hp (xs.length - 2) (by omega)
  rw [show xs.length - 2 + 1 = xs.length - 1 by omega] at n1
  unfold PeriodicCond Cyclic pc
  rw [c2Cond_iff xs ys ks hy hk hs]
  simp only [getElem_eq_getD0] at hends ⊢
  rw [piece_d1_right _ _ _ _ _ _ n1, piece_d1_left, piece_d2_right _ _ _ _ _ _ n1, piece_d2_left]
  refine and_congr_right fun _ => and_congr_right fun hl => ?_
  rw [hl, ← hends, d2_join_iff _ _ _ _ _ _ _ n1 n0]

end NdInterp
