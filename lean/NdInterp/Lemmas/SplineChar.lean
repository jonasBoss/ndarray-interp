/-
The system rows in terms of the spline they define (single lane): an interior row ⇔ the second derivative is
continuous at its knot; the first / last row ⇔ the selected end condition.  Hence `solve_for_k` answers `ks`
iff the piecewise cubic with slopes `ks` is C² and meets the end conditions (`solveForK_iff`).
-/
import NdInterp.Lemmas.SplineSys
import NdInterp.Lemmas.SplineEval

namespace NdInterp

variable {F : Type} [Field F]

/-! the conditions of C02 / C03 on a family of slopes `ks` -/

section conds
variable (xs ys ks : List F) (hy : ys.length = xs.length) (hk : ks.length = xs.length)

/-- piece between knots `i`, `j`, adjacent ones in every statement: two indices, so that the right knot of the
    last piece is `xs[n-1]` as written, not `xs[n-2+1]`; for `j = i + 1` it is `pieceAt` (`pc_succ`), in which
    the evaluation theorems speak -/
def pc (i j : Nat) (hi : i < xs.length) (hj : j < xs.length) : Cubic F :=
  pieceCubic xs[i] xs[j] (ys[i]'(by omega)) (ys[j]'(by omega)) (ks[i]'(by omega)) (ks[j]'(by omega))

theorem pc_succ (i : Nat) (hi : i + 1 < xs.length) :
    pc xs ys ks hy hk i (i + 1) (Nat.lt_of_succ_lt hi) hi = pieceAt xs ys ks i hi hy hk := rfl

def C2Cond : Prop :=
  ∀ j (h : j + 2 < xs.length),
    (pc xs ys ks hy hk j (j + 1) (by omega) (by omega)).d2 xs[j + 1] =
      (pc xs ys ks hy hk (j + 1) (j + 2) (by omega) h).d2 xs[j + 1]

def LeftCond (hn : 3 ≤ xs.length) (b : SingleBoundary F) : Prop :=
  match b.specialize with
  | .firstDeriv v => (pc xs ys ks hy hk 0 1 (by omega) (by omega)).d1 xs[0] = v
  | .secondDeriv v => (pc xs ys ks hy hk 0 1 (by omega) (by omega)).d2 xs[0] = v
  | .notAKnot => (pc xs ys ks hy hk 0 1 (by omega) (by omega)).d3 =
      (pc xs ys ks hy hk 1 2 (by omega) (by omega)).d3
  | _ => False

def RightCond (hn : 3 ≤ xs.length) (b : SingleBoundary F) : Prop :=
  match b.specialize with
  | .firstDeriv v =>
    (pc xs ys ks hy hk (xs.length - 2) (xs.length - 1) (by omega) (by omega)).d1 xs[xs.length - 1] = v
  | .secondDeriv v =>
    (pc xs ys ks hy hk (xs.length - 2) (xs.length - 1) (by omega) (by omega)).d2 xs[xs.length - 1] = v
  | .notAKnot =>
    (pc xs ys ks hy hk (xs.length - 3) (xs.length - 2) (by omega) (by omega)).d3 =
      (pc xs ys ks hy hk (xs.length - 2) (xs.length - 1) (by omega) (by omega)).d3
  | _ => False

end conds

/-- the equation of the interior row of knot `x1`, over the three knots, values and slopes it involves
    (`interiorRow_sat_iff`): the form the statements of C03 are written in; the algebra goes through `knotEq`
    (in differences), the cyclic system through `IntEq` (on sequences) -/
def interiorEq (x0 x1 x2 y0 y1 y2 k0 k1 k2 : F) : Prop :=
  (x2 - x1) * k0 + 2 * ((x2 - x1) + (x1 - x0)) * k1 + (x1 - x0) * k2 =
    3 * ((x2 - x1) * (y1 - y0) / (x1 - x0) + (x1 - x0) * (y2 - y1) / (x2 - x1))

/-- the equation of a knot in differences: `h0`, `h1` the widths of the intervals left and right of it,
    `d0`, `d1` the rises of the data over them, `k1` its own slope.  `interiorEq` is it for three consecutive
    knots; the cyclic system has it once more, at the knot where the two ends of the axis are glued. -/
def knotEq (h0 h1 d0 d1 k0 k1 k2 : F) : Prop :=
  h1 * k0 + 2 * (h1 + h0) * k1 + h0 * k2 = 3 * (h1 * d0 / h0 + h0 * d1 / h1)

/-- the equation of knot `j + 1`, on sequences -/
def IntEq (x y k : ℕ → F) (j : ℕ) : Prop :=
  knotEq (x (j + 1) - x j) (x (j + 2) - x (j + 1)) (y (j + 1) - y j) (y (j + 2) - y (j + 1))
    (k j) (k (j + 1)) (k (j + 2))

theorem interiorEq_iff_knotEq (x0 x1 x2 y0 y1 y2 k0 k1 k2 : F) :
    interiorEq x0 x1 x2 y0 y1 y2 k0 k1 k2 ↔ knotEq (x1 - x0) (x2 - x1) (y1 - y0) (y2 - y1) k0 k1 k2 :=
  Iff.rfl

theorem interiorRow_sat_iff (x0 x1 x2 y0 y1 y2 k0 k1 k2 : F) :
    (interiorRow x0 x1 x2 y0 y1 y2).lo * k0 + (interiorRow x0 x1 x2 y0 y1 y2).mid * k1 +
        (interiorRow x0 x1 x2 y0 y1 y2).up * k2 = (interiorRow x0 x1 x2 y0 y1 y2).rhs ↔
      interiorEq x0 x1 x2 y0 y1 y2 k0 k1 k2 :=
  Iff.rfl

theorem interiorRows_sat_iff (xs ys ks : List F) (hy : ys.length = xs.length) :
    (∀ i r, (interiorRows xs ys)[i]? = some r →
        r.lo * ks.getD i 0 + r.mid * ks.getD (i + 1) 0 + r.up * ks.getD (i + 2) 0 = r.rhs) ↔
      ∀ j, j + 2 < xs.length → IntEq (xs.getD · 0) (ys.getD · 0) (ks.getD · 0) j := by
  simp only [interiorRows_eq_some xs ys hy, and_imp, forall_eq', interiorRow_sat_iff]
  rfl

theorem forall_getElem?_concat {β : Type} (l : List β) (a : β) (P : Nat → β → Prop) :
    (∀ i b, (l ++ [a])[i]? = some b → P i b) ↔ (∀ i b, l[i]? = some b → P i b) ∧ P l.length a := by
  induction l generalizing P with
  | nil => simp [forall_getElem?_cons]
  | cons x l ih =>
    rw [List.cons_append, forall_getElem?_cons, forall_getElem?_cons, ih, and_assoc]
    rfl

theorem rowsSat_split (f l : Row F F) (I : List (Row F F)) (ks : List F) :
    RowsSat (f :: I ++ [l]) ks ↔ ks.length = I.length + 2 ∧
      f.mid * ks.getD 0 0 + f.up * ks.getD 1 0 = f.rhs ∧
      (∀ i r, I[i]? = some r →
        r.lo * ks.getD i 0 + r.mid * ks.getD (i + 1) 0 + r.up * ks.getD (i + 2) 0 = r.rhs) ∧
      l.lo * ks.getD I.length 0 + l.mid * ks.getD (I.length + 1) 0 = l.rhs := by
  rw [← fullSat_iff_rowsSat, fullSat_iff_triSat, triSat_iff, List.cons_append, forall_getElem?_cons,
    forall_getElem?_concat]
  simp only [List.length_cons, List.length_append, List.length_nil, List.getD_cons_zero,
    List.getD_cons_succ, mul_zero, zero_add]
  refine and_congr_right fun hk => and_congr_right fun _ => and_congr_right fun _ => ?_
  -- the `up` entry of the last row meets a read past the end
  rw [List.getD_eq_getElem?_getD (i := I.length + 1 + 1), List.getElem?_eq_none hk.le, Option.getD_none,
    mul_zero, add_zero]

theorem eq_iff_eq_of_sub_eq_mul {a b c d m : F} (hm : m ≠ 0) (h : c - d = m * (a - b)) :
    a = b ↔ c = d := by
  rw [← sub_eq_zero (a := c), h, mul_eq_zero, or_iff_right hm, sub_eq_zero]

variable [LinearOrder F] [IsStrictOrderedRing F]

/-- the second derivatives of two Hermite pieces of widths `h0`, `h1` agree at their joint ⇔ the knot equation -/
theorem d2_join_iff (h0 h1 d0 d1 k0 k1 k2 : F) (n0 : h0 ≠ 0) (n1 : h1 ≠ 0) :
    2 * (k0 + 2 * k1 - 3 * (d0 / h0)) / h0 = 2 * (3 * (d1 / h1) - 2 * k1 - k2) / h1 ↔
      knotEq h0 h1 d0 d1 k0 k1 k2 := by
  refine eq_iff_eq_of_sub_eq_mul (m := h0 * h1 / 2) (div_ne_zero (mul_ne_zero n0 n1) two_ne_zero) ?_
  field_simp
  ring

theorem c2_iff_row (x0 x1 x2 y0 y1 y2 k0 k1 k2 : F) (h1 : x1 - x0 ≠ 0) (h2 : x2 - x1 ≠ 0) :
    (pieceCubic x0 x1 y0 y1 k0 k1).d2 x1 = (pieceCubic x1 x2 y1 y2 k1 k2).d2 x1 ↔
      interiorEq x0 x1 x2 y0 y1 y2 k0 k1 k2 := by
  rw [piece_d2_right _ _ _ _ _ _ h1, piece_d2_left, interiorEq_iff_knotEq]
  exact d2_join_iff _ _ _ _ _ _ _ h1 h2

/-- `S''(x₀) = v` ⇔ SecondDeriv first row -/
theorem sd_left_iff (x0 x1 y0 y1 k0 k1 v : F) (h : x1 - x0 ≠ 0) :
    (pieceCubic x0 x1 y0 y1 k0 k1).d2 x0 = v ↔
      2 * (x1 - x0) * k0 + (x1 - x0) * k1 = 3 * (y1 - y0) - v * ((x1 - x0) * (x1 - x0)) / 2 := by
  rw [piece_d2_left]
  generalize x1 - x0 = a, y1 - y0 = d at *
  refine eq_iff_eq_of_sub_eq_mul (m := -(a * a / 2))
    (neg_ne_zero.mpr (div_ne_zero (mul_ne_zero h h) two_ne_zero)) ?_
  field_simp
  ring

/-- `S''(x_{n-1}) = v` ⇔ SecondDeriv last row -/
theorem sd_right_iff (x0 x1 y0 y1 k0 k1 v : F) (h : x1 - x0 ≠ 0) :
    (pieceCubic x0 x1 y0 y1 k0 k1).d2 x1 = v ↔
      (x1 - x0) * k0 + 2 * (x1 - x0) * k1 = 3 * (y1 - y0) + v * ((x1 - x0) * (x1 - x0)) / 2 := by
  rw [piece_d2_right _ _ _ _ _ _ h]
  generalize x1 - x0 = a, y1 - y0 = d at *
  refine eq_iff_eq_of_sub_eq_mul (m := a * a / 2) (div_ne_zero (mul_ne_zero h h) two_ne_zero) ?_
  field_simp
  ring

/-- left NotAKnot row (as coded) -/
def nakLeftEq (x0 x1 x2 y0 y1 y2 k0 k1 : F) : Prop :=
  (x2 - x1) * k0 + (x2 - x0) * k1 =
    (((x1 - x0) + 2 * (x2 - x0)) * (x2 - x1) * (y1 - y0) / (x1 - x0) +
      (x1 - x0) * (x1 - x0) * (y2 - y1) / (x2 - x1)) / (x2 - x0)

/-- right NotAKnot row (as coded, after the repair): `x1 x2 x3` are the last three knots -/
def nakRightEq (x1 x2 x3 y1 y2 y3 k2 k3 : F) : Prop :=
  (x3 - x1) * k2 + (x2 - x1) * k3 =
    ((x3 - x2) * (x3 - x2) * (y2 - y1) / (x2 - x1) +
      (2 * (x3 - x1) + (x3 - x2)) * (x2 - x1) * (y3 - y2) / (x3 - x2)) / (x3 - x1)

/-- with `a = x1 - x0`, `b = x2 - x1` the NotAKnot row is the difference of the third derivatives times
    `a²b²/(6(a+b))` plus the interior row times `a/(a+b)` -/
theorem nak_left_iff (x0 x1 x2 y0 y1 y2 k0 k1 k2 : F) (h0 : 0 < x1 - x0) (h1 : 0 < x2 - x1)
    (row1 : interiorEq x0 x1 x2 y0 y1 y2 k0 k1 k2) :
    (pieceCubic x0 x1 y0 y1 k0 k1).d3 = (pieceCubic x1 x2 y1 y2 k1 k2).d3 ↔
      nakLeftEq x0 x1 x2 y0 y1 y2 k0 k1 := by
  simp only [interiorEq, nakLeftEq, pieceCubic, Cubic.d3,
    show x2 - x0 = (x2 - x1) + (x1 - x0) by ring] at row1 ⊢
  generalize x1 - x0 = a, x2 - x1 = b, y1 - y0 = d0, y2 - y1 = d1 at *
  have ha := h0.ne'
  have hb := h1.ne'
  have hd := (add_pos h1 h0).ne'
  refine eq_iff_eq_of_sub_eq_mul (m := a ^ 2 * b ^ 2 / (6 * (b + a)))
    (div_ne_zero (mul_ne_zero (pow_ne_zero 2 ha) (pow_ne_zero 2 hb)) (mul_ne_zero (by norm_num) hd)) ?_
  field_simp at row1 ⊢
  linear_combination a * row1

theorem nak_right_iff (x1 x2 x3 y1 y2 y3 k1 k2 k3 : F) (h0 : 0 < x2 - x1) (h1 : 0 < x3 - x2)
    (row2 : interiorEq x1 x2 x3 y1 y2 y3 k1 k2 k3) :
    (pieceCubic x1 x2 y1 y2 k1 k2).d3 = (pieceCubic x2 x3 y2 y3 k2 k3).d3 ↔
      nakRightEq x1 x2 x3 y1 y2 y3 k2 k3 := by
  simp only [interiorEq, nakRightEq, pieceCubic, Cubic.d3,
    show x3 - x1 = (x3 - x2) + (x2 - x1) by ring] at row2 ⊢
  generalize x2 - x1 = a, x3 - x2 = b, y2 - y1 = d0, y3 - y2 = d1 at *
  have ha := h0.ne'
  have hb := h1.ne'
  have hd := (add_pos h1 h0).ne'
  refine eq_iff_eq_of_sub_eq_mul (m := -(a ^ 2 * b ^ 2 / (6 * (b + a)))) (neg_ne_zero.mpr
    (div_ne_zero (mul_ne_zero (pow_ne_zero 2 ha) (pow_ne_zero 2 hb)) (mul_ne_zero (by norm_num) hd))) ?_
  field_simp at row2 ⊢
  linear_combination b * row2

section ends
variable (e : Ends F F) (b : SingleBoundary F) (k0 k1 k2 : F)

/-- `row1`: only NotAKnot needs it -/
theorem firstRow_char (f : Row F F) (hf : firstRow e b.specialize = some f)
    (h0 : 0 < e.dx0) (h1 : 0 < e.dx1)
    (row1 : interiorEq e.x0 e.x1 e.x2 e.y0 e.y1 e.y2 k0 k1 k2) :
    f.mid * k0 + f.up * k1 = f.rhs ↔
      match b.specialize with
      | .firstDeriv v => (pieceCubic e.x0 e.x1 e.y0 e.y1 k0 k1).d1 e.x0 = v
      | .secondDeriv v => (pieceCubic e.x0 e.x1 e.y0 e.y1 k0 k1).d2 e.x0 = v
      | .notAKnot => (pieceCubic e.x0 e.x1 e.y0 e.y1 k0 k1).d3 = (pieceCubic e.x1 e.x2 e.y1 e.y2 k1 k2).d3
      | _ => False := by
  rcases b.specialize_cases with rfl | ⟨v, h⟩ | ⟨v, h⟩
  · obtain rfl := Option.some.inj hf
    simp only [SingleBoundary.specialize, map3_scalar, c2_eq, sq, Ends.dx0, Ends.dx1]
    rw [nak_left_iff _ _ _ _ _ _ _ _ _ h0 h1 row1]
    rfl
  · rw [h] at hf ⊢
    obtain rfl := Option.some.inj hf
    simp [piece_d1_left]
  · rw [h] at hf ⊢
    obtain rfl := Option.some.inj hf
    simp only [map2_scalar, c2_eq, c3_eq, sq, Ends.dx0]
    rw [sd_left_iff _ _ _ _ _ _ _ h0.ne']

theorem lastRow_char (l : Row F F) (hl : lastRow e b.specialize = some l)
    (h1 : 0 < e.dxl1) (h2 : 0 < e.dxl2)
    (rowL : interiorEq e.xl3 e.xl2 e.xl1 e.yl3 e.yl2 e.yl1 k0 k1 k2) :
    l.lo * k1 + l.mid * k2 = l.rhs ↔
      match b.specialize with
      | .firstDeriv v => (pieceCubic e.xl2 e.xl1 e.yl2 e.yl1 k1 k2).d1 e.xl1 = v
      | .secondDeriv v => (pieceCubic e.xl2 e.xl1 e.yl2 e.yl1 k1 k2).d2 e.xl1 = v
      | .notAKnot => (pieceCubic e.xl3 e.xl2 e.yl3 e.yl2 k0 k1).d3 = (pieceCubic e.xl2 e.xl1 e.yl2 e.yl1 k1 k2).d3
      | _ => False := by
  rcases b.specialize_cases with rfl | ⟨v, h⟩ | ⟨v, h⟩
  · obtain rfl := Option.some.inj hl
    simp only [SingleBoundary.specialize, map3_scalar, c2_eq, sq, Ends.dxl1, Ends.dxl2]
    rw [nak_right_iff _ _ _ _ _ _ _ _ _ h2 h1 rowL]
    rfl
  · rw [h] at hl ⊢
    obtain rfl := Option.some.inj hl
    simp [piece_d1_right _ _ _ _ _ _ h1.ne']
  · rw [h] at hl ⊢
    obtain rfl := Option.some.inj hl
    simp only [map2_scalar, c2_eq, c3_eq, sq, Ends.dxl1]
    rw [sd_right_iff _ _ _ _ _ _ _ h1.ne']

end ends

theorem c2Cond_iff (xs ys ks : List F) (hy : ys.length = xs.length) (hk : ks.length = xs.length)
    (hs : StrictInc xs) :
    C2Cond xs ys ks hy hk ↔
      ∀ j, j + 2 < xs.length → IntEq (xs.getD · 0) (ys.getD · 0) (ks.getD · 0) j := by
  refine forall_congr' fun j => forall_congr' fun hj => ?_
  refine (c2_iff_row _ _ _ _ _ _ _ _ _ (hs.sub_ne_zero (by omega) (by omega))
    (hs.sub_ne_zero (by omega) hj)).trans ?_
  simp only [IntEq, interiorEq_iff_knotEq, getElem_eq_getD0]

section char
variable [Cmp F]

theorem spline_char (xs ys ks : List F) (hy : ys.length = xs.length) (hk : ks.length = xs.length)
    (hn : 3 ≤ xs.length) (hs : StrictInc xs) (left right : SingleBoundary F)
    (hpar : ¬ (xs.length = 3 ∧ isNakPair left right = true)) :
    RowsSat (sysRows xs ys hy hn left right) ks ↔
      C2Cond xs ys ks hy hk ∧ LeftCond xs ys ks hy hk hn left ∧ RightCond xs ys ks hy hk hn right := by
  obtain ⟨f, l, hf, hl, hrows⟩ := sysRows_general xs ys hy hn left right hpar
  obtain ⟨p0, p1, pl1, pl2⟩ := endsOf_pos xs ys hy hn hs
  obtain ⟨m, hm⟩ : ∃ m, xs.length = m + 3 := ⟨xs.length - 3, by omega⟩
  rw [hrows, rowsSat_split, interiorRows_sat_iff xs ys ks hy, interiorRows_length xs ys hy,
    and_iff_right (by omega : ks.length = xs.length - 2 + 2), and_left_comm, c2Cond_iff xs ys ks hy hk hs]
  -- the two end rows, given C²
  refine and_congr_right fun hC2 => and_congr ?_ ?_
  · refine Iff.trans ?_ (firstRow_char (endsOf xs ys hy hn) left (ks[0]'(by omega)) (ks[1]'(by omega))
      (ks[2]'(by omega)) f hf p0 p1 ?_)
    · simp only [getElem_eq_getD0]
    · simp only [endsOf, getElem_eq_getD0]
      exact hC2 0 (by omega)
  · refine Iff.trans ?_ (lastRow_char (endsOf xs ys hy hn) right (ks[xs.length - 3]'(by omega))
      (ks[xs.length - 2]'(by omega)) (ks[xs.length - 1]'(by omega)) l hl pl1 pl2 ?_)
    · simp only [getElem_eq_getD0, show xs.length - 2 + 1 = xs.length - 1 by omega]
    · simp only [endsOf, getElem_eq_getD0, hm]
      exact hC2 m (by omega)

theorem solveForK_iff (xs ys ks : List F) (hs : StrictInc xs) (hy : ys.length = xs.length)
    (hn : 3 ≤ xs.length) (left right : SingleBoundary F)
    (hpar : ¬ (xs.length = 3 ∧ isNakPair left right = true)) (hk : ks.length = xs.length) :
    solveForK (V := F) xs ys (.mixed left right) = .ok ks ↔
      C2Cond xs ys ks hy hk ∧ LeftCond xs ys ks hy hk hn left ∧ RightCond xs ys ks hy hk hn right := by
  obtain ⟨ks0, h0, -, hsat, huniq⟩ := solveForK_spec xs ys hy hn hs left right
  rw [← spline_char xs ys ks hy hk hn hs left right hpar, h0, Except.ok.injEq]
  exact ⟨fun h => h ▸ hsat, fun h => (huniq ks h).symm⟩

end char

end NdInterp
