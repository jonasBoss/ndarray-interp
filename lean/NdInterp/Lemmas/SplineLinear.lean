/-
The assembled rows of the non-periodic spline system under the two kinds of map of C15.  A change of units —
axis through any `f` with `f a - f b = c (a - b)`, `c ≠ 0` (shift, scaling), data times `t`, boundary derivative
values converted — makes every equation the old one rescaled (`RowRel`), so the slopes are the old ones times
`t / c`, with no condition on the knots.  Superposition: same matrix, right-hand sides add.
-/
import NdInterp.Lemmas.Linearity
import NdInterp.Lemmas.SplineSys
import NdInterp.Lemmas.SplineEval

namespace NdInterp

section
variable {F : Type}

theorem sameDiag_append : ∀ (a1 a2 b1 b2 : List (Row F F)), SameDiag a1 a2 → SameDiag b1 b2 →
    SameDiag (a1 ++ b1) (a2 ++ b2)
  | [], [], _, _, _, hb => hb
  | _ :: a1, _ :: a2, b1, b2, ⟨h1, h2, h3, h4⟩, hb => ⟨h1, h2, h3, sameDiag_append a1 a2 b1 b2 h4 hb⟩

def SingleBoundary.sameKind : SingleBoundary F → SingleBoundary F → Bool
  | .notAKnot, .notAKnot => true
  | .natural, .natural => true
  | .clamped, .clamped => true
  | .firstDeriv _, .firstDeriv _ => true
  | .secondDeriv _, .secondDeriv _ => true
  | _, _ => false

/-- two conditions of the same kind: induction over the five kinds -/
@[elab_as_elim] theorem SingleBoundary.sameKind_elim {P : SingleBoundary F → SingleBoundary F → Prop}
    (nak : P .notAKnot .notAKnot) (nat : P .natural .natural) (cl : P .clamped .clamped)
    (fd : ∀ a b, P (.firstDeriv a) (.firstDeriv b)) (sd : ∀ a b, P (.secondDeriv a) (.secondDeriv b))
    {l1 l2 : SingleBoundary F} (h : l1.sameKind l2 = true) : P l1 l2 := by
  cases l1 <;> cases l2 <;> first | exact Bool.noConfusion h | apply_assumption

end

variable {F : Type} [Field F]

/-- boundary derivative values in the units of data multiplied by `c` -/
def SingleBoundary.scale (c : F) : SingleBoundary F → SingleBoundary F
  | .firstDeriv v => .firstDeriv (c * v)
  | .secondDeriv v => .secondDeriv (c * v)
  | b => b

/-- boundary derivative values converted to an axis multiplied by `c` -/
def SingleBoundary.scaleAxis (c : F) : SingleBoundary F → SingleBoundary F
  | .firstDeriv v => .firstDeriv (v / c)
  | .secondDeriv v => .secondDeriv (v / (c * c))
  | b => b

@[simp] theorem SingleBoundary.scale_one (b : SingleBoundary F) : b.scale 1 = b := by
  cases b <;> simp [SingleBoundary.scale]

@[simp] theorem SingleBoundary.scaleAxis_one (b : SingleBoundary F) : b.scaleAxis 1 = b := by
  cases b <;> simp [SingleBoundary.scaleAxis]

def Ends.units (f : F → F) (t : F) (e : Ends F F) : Ends F F :=
  { x0 := f e.x0, x1 := f e.x1, x2 := f e.x2, xl1 := f e.xl1, xl2 := f e.xl2, xl3 := f e.xl3
    y0 := t * e.y0, y1 := t * e.y1, y2 := t * e.y2
    yl1 := t * e.yl1, yl2 := t * e.yl2, yl3 := t * e.yl3 }

theorem endsOf_units (f : F → F) (t : F) (xs ys : List F) (hy : ys.length = xs.length)
    (hn : 3 ≤ xs.length) :
    endsOf (xs.map f) (ys.map (t * ·)) (by simpa using hy) (by simpa using hn) =
      (endsOf xs ys hy hn).units f t := by
  simp [endsOf, Ends.units]

section units
variable (f : F → F) (c t : F) (hc : c ≠ 0)
include hc

/-! The terms the right-hand sides are made of, with axis differences `c` times and data differences `t`
times as large: the `c` of a denominator cancels against one in the numerator; no denominator is assumed
non-zero.  (`field_simp` proves each row's identity in one call, but is slow to check on them.) -/

theorem units_quot (A D H : F) : c * A * (t * D) / (c * H) = t * (A * D / H) := by
  rw [mul_assoc, mul_div_mul_left _ _ hc, mul_left_comm, mul_div_assoc]

theorem units_slope (S A : F) : t / c * S * (c * A) = t * (S * A) := by
  rw [mul_mul_mul_comm, div_mul_cancel₀ _ hc]

theorem units_curv (v h : F) : t * v / (c * c) * (c * c * h) = t * (v * h) := by
  rw [div_mul_comm, mul_div_cancel_left₀ _ (mul_ne_zero hc hc), mul_comm, mul_assoc]

theorem units_nak (A B D0 D1 H0 H1 d : F) :
    (c * c * A * (t * D0) / (c * H0) + c * c * B * (t * D1) / (c * H1)) / (c * d) =
      t * ((A * D0 / H0 + B * D1 / H1) / d) := by
  rw [mul_assoc c c, units_quot c t hc, mul_assoc c c, units_quot c t hc, mul_assoc c A, mul_assoc c B,
    mul_div_assoc c, mul_div_assoc c, ← mul_add, ← mul_add, mul_left_comm, mul_div_mul_left _ _ hc, mul_div_assoc]

variable (hf : ∀ a b, f a - f b = c * (a - b))
include hf

theorem interiorRow_units (x0 x1 x2 y0 y1 y2 : F) :
    RowRel (t / c) (interiorRow (f x0) (f x1) (f x2) (t * y0) (t * y1) (t * y2))
      (interiorRow x0 x1 x2 y0 y1 y2) := by
  refine .mul hc ?lo ?mid ?up ?rhs <;> simp only [interiorRow, hf, ← mul_sub, ← mul_add, units_quot c t hc]
  case mid => exact mul_left_comm 2 c _
  case rhs => exact mul_left_comm 3 t _

theorem interiorRows_units : ∀ xs ys : List F,
    List.Forall₂ (RowRel (t / c)) (interiorRows (xs.map f) (ys.map (t * ·))) (interiorRows xs ys)
  | x0 :: x1 :: x2 :: xs, y0 :: y1 :: y2 :: ys => by
    simp only [List.map_cons, interiorRows_cons]
    exact .cons (interiorRow_units f c t hc hf _ _ _ _ _ _) (interiorRows_units (x1 :: x2 :: xs) (y1 :: y2 :: ys))
  | [], _ | [_], _ | [_, _], _ => .nil
  | _ :: _ :: _ :: _, [] | _ :: _ :: _ :: _, [_] | _ :: _ :: _ :: _, [_, _] => .nil

/-- with matrix entries that are axis differences the equation is multiplied by `c` (NotAKnot,
    SecondDeriv, Natural); the FirstDeriv equation `k = v` stays as it is -/
theorem firstRow_units (e : Ends F F) (b : SingleBoundary F) :
    ∃ r' r, firstRow (e.units f t) ((b.scale t).scaleAxis c).specialize = some r' ∧
      firstRow e b.specialize = some r ∧ RowRel (t / c) r' r := by
  cases b with
  | notAKnot | secondDeriv _ | natural =>
    -- `mul_left_comm 2 c`, `mul_mul_mul_comm c _ c`: the `c`s of a product in front, as `units_nak`, `units_curv` read them
    refine ⟨_, _, rfl, rfl, .mul hc ?_ ?_ ?_ ?_⟩ <;>
      simp only [Ends.units, Ends.dx0, Ends.dx1, hf, map3_scalar, map2_scalar, c0_eq, c2_eq, c3_eq, sq,
        ← mul_sub, ← mul_add, mul_zero, mul_left_comm (2 : F) c, mul_mul_mul_comm c _ c, zero_div, zero_mul,
        sub_zero, units_nak c t hc, units_curv c t hc]
    -- left: the right-hand sides of SecondDeriv and Natural, where `t` has to move to the front
    all_goals ring
  | firstDeriv _ | clamped =>
    refine ⟨_, _, rfl, rfl, .rhs ?_ ?_ ?_ ?_⟩ <;>
      simp only [const_scalar, c0_eq, c1_eq, mul_zero, mul_div_right_comm]

theorem lastRow_units (e : Ends F F) (b : SingleBoundary F) :
    ∃ r' r, lastRow (e.units f t) ((b.scale t).scaleAxis c).specialize = some r' ∧
      lastRow e b.specialize = some r ∧ RowRel (t / c) r' r := by
  cases b with
  | notAKnot | secondDeriv _ | natural =>
    refine ⟨_, _, rfl, rfl, .mul hc ?_ ?_ ?_ ?_⟩ <;>
      simp only [Ends.units, Ends.dxl1, Ends.dxl2, hf, map3_scalar, map2_scalar, c0_eq, c2_eq, c3_eq, sq,
        ← mul_sub, ← mul_add, mul_zero, mul_left_comm (2 : F) c, mul_mul_mul_comm c _ c, zero_div, zero_mul,
        add_zero, units_nak c t hc, units_curv c t hc]
    all_goals ring
  | firstDeriv _ | clamped =>
    refine ⟨_, _, rfl, rfl, .rhs ?_ ?_ ?_ ?_⟩ <;>
      simp only [const_scalar, c0_eq, c1_eq, mul_zero, mul_div_right_comm]

theorem parabolaRows_units (e : Ends F F) :
    List.Forall₂ (RowRel (t / c)) (parabolaRows (e.units f t)) (parabolaRows e) := by
  -- outer rows: constant matrix entries and a slope on the right, which is `t / c` times the old one
  -- (`mul_div_mul_comm`); the middle row is multiplied by `c`
  refine .cons (.rhs ?_ ?_ ?_ ?_) (.cons (.mul hc ?_ ?_ ?_ ?_) (.cons (.rhs ?_ ?_ ?_ ?_) .nil)) <;>
    simp only [Ends.units, Ends.dx0, Ends.dx1, hf, map1_scalar, map2_scalar, c0_eq, c1_eq, c2_eq, c3_eq,
      ← mul_sub, ← mul_add, mul_left_comm (2 : F) c, mul_div_mul_comm, units_slope c t hc]
  -- left: the three right-hand sides, where `t / c` or `t` has to move to the front
  all_goals ring

theorem pieceCubic_units (xl xr yl yr kl kr q : F) :
    (pieceCubic (f xl) (f xr) (t * yl) (t * yr) (t / c * kl) (t / c * kr)).eval (f q) =
      t * (pieceCubic xl xr yl yr kl kr).eval q := by
  simp only [pieceCubic, Cubic.eval, hf, ← mul_sub]
  generalize xr - xl = h, yr - yl = d, q - xl = s
  field_simp

theorem sysRows_units (xs ys : List F) (hy : ys.length = xs.length) (hn : 3 ≤ xs.length)
    (left right : SingleBoundary F) :
    List.Forall₂ (RowRel (t / c))
      (sysRows (xs.map f) (ys.map (t * ·)) (by simpa using hy) (by simpa using hn)
        ((left.scale t).scaleAxis c) ((right.scale t).scaleAxis c))
      (sysRows xs ys hy hn left right) := by
  have hnak : isNakPair ((left.scale t).scaleAxis c) ((right.scale t).scaleAxis c) =
      isNakPair left right := by cases left <;> cases right <;> rfl
  unfold sysRows
  rw [hnak, endsOf_units, List.length_map]
  split
  · exact parabolaRows_units f c t hc hf _
  · obtain ⟨_, _, e1, e2, h1⟩ := firstRow_units f c t hc hf (endsOf xs ys hy hn) left
    obtain ⟨_, _, e3, e4, h2⟩ := lastRow_units f c t hc hf (endsOf xs ys hy hn) right
    rw [e1, e2, e3, e4]
    exact .cons h1 (List.rel_append (interiorRows_units f c t hc hf xs ys) (.cons h2 .nil))

variable [Cmp F]

theorem solveForK_units (xs ys : List F) (hy : ys.length = xs.length) (hn : 3 ≤ xs.length)
    (left right : SingleBoundary F) {ks : List F} (h : solveForK (V := F) xs ys (.mixed left right) = .ok ks) :
    solveForK (V := F) (xs.map f) (ys.map (t * ·))
        (.mixed ((left.scale t).scaleAxis c) ((right.scale t).scaleAxis c)) = .ok (ks.map (t / c * ·)) := by
  rw [solveForK_mixed xs ys hy hn] at h
  rw [solveForK_mixed _ _ (by simpa using hy) (by simpa using hn),
    thomas_rescale _ (sysRows_units f c t hc hf xs ys hy hn left right), Except.ok.inj h]

end units

theorem zipWith_add_append (a1 a2 b1 b2 : List (Row F F)) (h : a1.length = a2.length) :
    List.zipWith addRow (a1 ++ b1) (a2 ++ b2) = List.zipWith addRow a1 a2 ++ List.zipWith addRow b1 b2 :=
  List.zipWith_append h

theorem interiorRow_add (x0 x1 x2 y0 y1 y2 z0 z1 z2 : F) :
    interiorRow x0 x1 x2 (y0 + z0) (y1 + z1) (y2 + z2) =
      addRow (interiorRow x0 x1 x2 y0 y1 y2) (interiorRow x0 x1 x2 z0 z1 z2) := by
  simp only [interiorRow, addRow, Row.mk.injEq, true_and]
  ring

theorem interiorRows_add : ∀ (xs ys zs : List F), ys.length = xs.length → zs.length = xs.length →
    interiorRows xs (List.zipWith (· + ·) ys zs) =
      List.zipWith addRow (interiorRows xs ys) (interiorRows xs zs) ∧
    SameDiag (interiorRows xs ys) (interiorRows xs zs)
  | [], [], [], _, _ | [_], [_], [_], _, _ | [_, _], [_, _], [_, _], _, _ => ⟨rfl, trivial⟩
  | x0 :: x1 :: x2 :: xs, y0 :: y1 :: y2 :: ys, z0 :: z1 :: z2 :: zs, hy, hz => by
    have ih := interiorRows_add (x1 :: x2 :: xs) (y1 :: y2 :: ys) (z1 :: z2 :: zs) (Nat.succ.inj hy)
      (Nat.succ.inj hz)
    rw [interiorRows_cons, interiorRows_cons]
    exact ⟨(interiorRows_cons ..).trans (congrArg₂ _ (interiorRow_add ..) ih.1), rfl, rfl, rfl, ih.2⟩

/-- for two boundaries of the same kind -/
def SingleBoundary.add : SingleBoundary F → SingleBoundary F → SingleBoundary F
  | .firstDeriv a, .firstDeriv b => .firstDeriv (a + b)
  | .secondDeriv a, .secondDeriv b => .secondDeriv (a + b)
  | l, _ => l

def Ends.add (e e' : Ends F F) : Ends F F :=
  { e with y0 := e.y0 + e'.y0, y1 := e.y1 + e'.y1, y2 := e.y2 + e'.y2
           yl1 := e.yl1 + e'.yl1, yl2 := e.yl2 + e'.yl2, yl3 := e.yl3 + e'.yl3 }

theorem isNakPair_add {l1 l2 r1 r2 : SingleBoundary F} (hl : l1.sameKind l2 = true)
    (hr : r1.sameKind r2 = true) :
    isNakPair (l1.add l2) (r1.add r2) = isNakPair l1 r1 ∧ isNakPair l2 r2 = isNakPair l1 r1 := by
  refine SingleBoundary.sameKind_elim ?_ ?_ ?_ (fun _ _ => ?_) (fun _ _ => ?_) hl <;>
    refine SingleBoundary.sameKind_elim ?_ ?_ ?_ (fun _ _ => ?_) (fun _ _ => ?_) hr <;> exact ⟨rfl, rfl⟩

/-! Superposition in a boundary row, for two data sets on the same axis and two conditions of the same kind:
the matrix entries read the axis only, and the right-hand side is linear in the data and the boundary value. -/

theorem firstRow_add (e e' : Ends F F) (h0 : e'.x0 = e.x0) (h1 : e'.x1 = e.x1) (h2 : e'.x2 = e.x2)
    {l1 l2 : SingleBoundary F} (hl : l1.sameKind l2 = true) :
    ∃ f1 f2, firstRow e l1.specialize = some f1 ∧ firstRow e' l2.specialize = some f2 ∧
      firstRow (e.add e') (l1.add l2).specialize = some (addRow f1 f2) ∧ SameDiag [f1] [f2] := by
  refine SingleBoundary.sameKind_elim ?_ ?_ ?_ (fun a b => ?_) (fun a b => ?_) hl <;>
    refine ⟨_, _, rfl, rfl, ?_, ?_⟩ <;>
    simp only [SingleBoundary.add, SingleBoundary.specialize, firstRow, Ends.add, Ends.dx0, Ends.dx1, addRow,
      map3_scalar, map2_scalar, const_scalar, c0_eq, c2_eq, c3_eq, sq, h0, h1, h2, SameDiag, and_self,
      Option.some.injEq, Row.mk.injEq, true_and]
  -- left: for every kind but FirstDeriv the equation between the right-hand sides
  all_goals ring

theorem lastRow_add (e e' : Ends F F) (h1 : e'.xl1 = e.xl1) (h2 : e'.xl2 = e.xl2) (h3 : e'.xl3 = e.xl3)
    {r1 r2 : SingleBoundary F} (hr : r1.sameKind r2 = true) :
    ∃ f1 f2, lastRow e r1.specialize = some f1 ∧ lastRow e' r2.specialize = some f2 ∧
      lastRow (e.add e') (r1.add r2).specialize = some (addRow f1 f2) ∧ SameDiag [f1] [f2] := by
  refine SingleBoundary.sameKind_elim ?_ ?_ ?_ (fun a b => ?_) (fun a b => ?_) hr <;>
    refine ⟨_, _, rfl, rfl, ?_, ?_⟩ <;>
    simp only [SingleBoundary.add, SingleBoundary.specialize, lastRow, Ends.add, Ends.dxl1, Ends.dxl2, addRow,
      map3_scalar, map2_scalar, const_scalar, c0_eq, c2_eq, c3_eq, sq, h1, h2, h3, SameDiag, and_self,
      Option.some.injEq, Row.mk.injEq, true_and]
  all_goals ring

theorem parabolaRows_add (e e' : Ends F F) (h0 : e'.x0 = e.x0) (h1 : e'.x1 = e.x1) (h2 : e'.x2 = e.x2) :
    parabolaRows (e.add e') = List.zipWith addRow (parabolaRows e) (parabolaRows e') ∧
      SameDiag (parabolaRows e) (parabolaRows e') := by
  simp only [parabolaRows, Ends.add, Ends.dx0, Ends.dx1, map1_scalar, map2_scalar, h0, h1, h2,
    List.zipWith_cons_cons, List.zipWith_nil_right, addRow, SameDiag, and_self, and_true,
    List.cons.injEq, Row.mk.injEq, true_and]
  -- left: the three equations between the right-hand sides
  refine ⟨?_, ?_, ?_⟩ <;> ring

theorem sysRows_add (xs ys zs : List F) (hy : ys.length = xs.length) (hz : zs.length = xs.length)
    (hn : 3 ≤ xs.length) (l1 l2 r1 r2 : SingleBoundary F)
    (hl : l1.sameKind l2 = true) (hr : r1.sameKind r2 = true) :
    sysRows xs (List.zipWith (· + ·) ys zs) (by simp [hy, hz]) hn (l1.add l2) (r1.add r2) =
      List.zipWith addRow (sysRows xs ys hy hn l1 r1) (sysRows xs zs hz hn l2 r2) ∧
    SameDiag (sysRows xs ys hy hn l1 r1) (sysRows xs zs hz hn l2 r2) := by
  have he : endsOf xs (List.zipWith (· + ·) ys zs) (by simp [hy, hz]) hn =
      (endsOf xs ys hy hn).add (endsOf xs zs hz hn) := by
    simp [endsOf, Ends.add]
  unfold sysRows
  rw [(isNakPair_add hl hr).1, (isNakPair_add hl hr).2, he]
  split
  · exact parabolaRows_add (endsOf xs ys hy hn) (endsOf xs zs hz hn) rfl rfl rfl
  · obtain ⟨f1, f2, e1, e2, e3, df⟩ := firstRow_add (endsOf xs ys hy hn) (endsOf xs zs hz hn) rfl rfl rfl hl
    obtain ⟨g1, g2, e4, e5, e6, dg⟩ := lastRow_add (endsOf xs ys hy hn) (endsOf xs zs hz hn) rfl rfl rfl hr
    have hi := interiorRows_add xs ys zs hy hz
    have hlen : (interiorRows xs ys).length = (interiorRows xs zs).length := by
      simp [interiorRows_length, hy, hz]
    rw [e1, e2, e3, e4, e5, e6]
    simp only [hi.1, List.cons_append, List.zipWith_cons_cons, zipWith_add_append _ _ _ _ hlen,
      List.zipWith_nil_right]
    exact ⟨trivial, sameDiag_append [f1] [f2] _ _ df (sameDiag_append _ _ _ _ hi.2 dg)⟩

theorem solveForK_add [Cmp F] (xs ys zs : List F) (hy : ys.length = xs.length)
    (hz : zs.length = xs.length) (hn : 3 ≤ xs.length) {l1 l2 r1 r2 : SingleBoundary F}
    (hl : l1.sameKind l2 = true) (hr : r1.sameKind r2 = true) {ks ms : List F}
    (h1 : solveForK (V := F) xs ys (.mixed l1 r1) = .ok ks)
    (h2 : solveForK (V := F) xs zs (.mixed l2 r2) = .ok ms) :
    solveForK (V := F) xs (List.zipWith (· + ·) ys zs) (.mixed (l1.add l2) (r1.add r2)) =
      .ok (List.zipWith (· + ·) ks ms) := by
  have h := sysRows_add xs ys zs hy hz hn l1 l2 r1 r2 hl hr
  rw [solveForK_mixed xs ys hy hn] at h1
  rw [solveForK_mixed xs zs hz hn] at h2
  rw [solveForK_mixed xs _ (by simp [hy, hz]) hn, h.1, thomas_add _ _ h.2, Except.ok.inj h1, Except.ok.inj h2]

theorem pieceCubic_add (xl xr yl yr kl kr yl' yr' kl' kr' q : F) :
    (pieceCubic xl xr (yl + yl') (yr + yr') (kl + kl') (kr + kr')).eval q =
      (pieceCubic xl xr yl yr kl kr).eval q + (pieceCubic xl xr yl' yr' kl' kr').eval q := by
  simp only [pieceCubic, Cubic.eval]
  ring

end NdInterp
